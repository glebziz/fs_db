import FsDb.Proofs.LocksetGlobal
import FsDb.Generated.Locks
/-!
# C15 — Concurrent use of one database is free of data races

The code side is `Generated.Locks`: for every root of fs_db (public entry points of the inline
handle and its transactions, the gRPC service methods, the read-writer of Create, the worker pool,
the collector, every goroutine body and every escaping closure) the lock skeleton regenerated from
/repo's source on every run by /verif/lockx, under the guard table /verif/lockx/locks.json (which
mutex protects which field; which objects are owned by which monitor).

`C15_code_disciplined` is the obligation that is proved anew against the current source on every run: the kernel
evaluates the static checker on every regenerated skeleton, and it accepts them all.  The obligation feeds
`C15_race_free` (through `C15_race_free_of_checked`, which holds of any accepted set of roots): hence for every
client program over these roots (any number of goroutines, each running any sequence of calls, any path through
each) and every schedule, two accesses to state of the same guard from different goroutines, at least one a
write, are ordered by a release/acquire pair of that guard -- by the Go memory model they are not a data race.
-/
namespace FsDb.Properties.C15
open FsDb.Lockset

/-- a client program over a set of roots: every goroutine runs some sequence of complete
    executions of roots (any roots, any number, any path through each) -/
def Program (roots : List Stmt) (Q : Thread → List Ev) : Prop :=
  ∀ t, ∃ paths : List (List Ev), Q t = paths.flatten ∧ ∀ p ∈ paths, ∃ r ∈ roots, RootPath r p

/-- checked roots ⇒ no data race, for every program, every schedule, every prefix of a run: two accesses
    to state of the same guard from different goroutines, at least one a write, are ordered by a
    release/acquire pair of that guard -- by the Go memory model they are not a data race -/
theorem C15_race_free_of_checked (roots : List Stmt) (hok : roots.all rootOk = true)
    (Q : Thread → List Ev) (hQ : Program roots Q) (tr : List (Thread × Ev)) (hrun : Run (fun _ => []) Q tr)
    {pre mid post : List (Thread × Ev)} {a b : Thread} {l : Lock} {wa wb : Bool}
    (htr : tr = pre ++ (a, .need l wa) :: (mid ++ (b, .need l wb) :: post))
    (hab : a ≠ b) (hconf : wa = true ∨ wb = true) :
    ∃ m1 m2 m3 wr wq, mid = m1 ++ (a, .rel l wr) :: (m2 ++ (b, .acq l wq) :: m3) := by
  refine race_free Excl.init (htr ▸ hrun.gvalid fun t => ?_) hab hconf
  -- the program of `t` is a concatenation of complete paths of accepted roots, each disciplined
  obtain ⟨paths, hq, hp⟩ := hQ t
  have := calls_disciplined paths fun p hpm =>
    let ⟨r, hr, hpath⟩ := hp p hpm; rootOk_sound (List.all_eq_true.mp hok r hr) hpath
  rw [hq, this]; rfl

/-- the obligation re-checked against /repo's current source on every run: every regenerated lock
    skeleton is accepted by the checker (evaluated by the kernel) -/
theorem C15_code_disciplined : Generated.Locks.funcs.all rootOk = true := by decide +kernel

/-- C15 for the current source -/
theorem C15_race_free (Q : Thread → List Ev) (hQ : Program Generated.Locks.funcs Q)
    (tr : List (Thread × Ev)) (hrun : Run (fun _ => []) Q tr)
    {pre mid post : List (Thread × Ev)} {a b : Thread} {l : Lock} {wa wb : Bool}
    (htr : tr = pre ++ (a, .need l wa) :: (mid ++ (b, .need l wb) :: post))
    (hab : a ≠ b) (hconf : wa = true ∨ wb = true) :
    ∃ m1 m2 m3 wr wq, mid = m1 ++ (a, .rel l wr) :: (m2 ++ (b, .acq l wq) :: m3) :=
  C15_race_free_of_checked _ C15_code_disciplined Q hQ tr hrun htr hab hconf

/-- The checker is sound for every statement, lockset and path: when `check s L` accepts with result `r`, every
    execution of `s` with outcome `o` keeps the lock discipline from `L` and ends in the lockset `r` records for
    `o`.  (`check_sound` under this file's name; `C15_race_free_of_checked` uses it through `rootOk_sound`.) -/
theorem C15_checker_sound {s : Stmt} {p : List Ev} {o : Out} (hx : Exec s p o) {L : LS} {r : Res}
    (h : check s L = some r) : ∃ L', LS.run L p = some L' ∧ r.get o = some L' := check_sound s h hx

/-- a disciplined monitor method: lock, touch, unlock (with an early return under `defer`) -/
def goodRoot : Stmt :=
  .seq (.ev (.acq 0 true)) (.scope (.seq (.alt .ret .skip) (.ev (.need 0 true))) (.ev (.rel 0 true)))

/-- an undisciplined one: the access happens before the lock is taken (the pin's shuffle of the
    shared random generator, the lock-free iteration of the registry, the lazy getters) -/
def badRoot : Stmt := .seq (.ev (.need 0 true)) (.seq (.ev (.acq 0 true)) (.ev (.rel 0 true)))

example : rootOk goodRoot = true := by decide
example : rootOk badRoot = false := by decide

theorem two_callers {root : Stmt} (path : List Ev) (h : RootPath root path) :
    Program [root] (fun t => if t = 0 ∨ t = 1 then path else []) := by
  intro t
  by_cases ht : t = 0 ∨ t = 1
  · exact ⟨[path], by simp [ht], fun p hp => ⟨root, List.mem_singleton.mpr rfl, List.mem_singleton.mp hp ▸ h⟩⟩
  · exact ⟨[], by simp [ht], nofun⟩

/-- the hypotheses of the theorem are satisfiable: two goroutines, each calling the good root
    once, and a real interleaving in which both accesses occur -/
example : ∃ Q tr, Program [goodRoot] Q ∧ Run (fun _ => []) Q tr ∧
    tr = [(0, .acq 0 true)] ++ (0, .need 0 true) :: ([(0, .rel 0 true), (1, .acq 0 true)] ++ (1, .need 0 true) :: []) := by
  refine ⟨_, _, two_callers [.acq 0 true, .need 0 true, .rel 0 true] (.inl ?_), ?_, rfl⟩
  · exact .seqN (.ev _) (.scopeN (.seqN (.altR .skip) (.ev _)) (.ev _))
  · have free : ∀ {H : Held} {t : Thread}, (∀ t', t' ≠ t → H t' = []) → ∀ l w, compat H t l w :=
      fun h l w t' ht' => by rw [h t' ht']; exact ⟨nofun, fun _ => nofun⟩
    refine .cons (t := 0) rfl (fun l w _ => free (fun _ _ => rfl) l w) ?_
    refine .cons (t := 0) rfl nofun ?_
    refine .cons (t := 0) rfl nofun ?_
    refine .cons (t := 1) rfl (fun l w _ => free (fun t' ht' => ?_) l w) ?_
    · by_cases h0 : t' = 0
      · subst h0; rfl
      · simp only [Held.set, h0, if_false]
    exact .cons (t := 1) rfl nofun .nil

/-- without the discipline the race exists: two goroutines calling the bad root can perform their
    writes back to back, with no release/acquire between them -/
theorem C15_undisciplined_races : ∃ Q tr, Program [badRoot] Q ∧ Run (fun _ => []) Q tr ∧
    tr = [] ++ (0, .need 0 true) :: ([] ++ (1, .need 0 true) :: []) := by
  refine ⟨_, _, two_callers [.need 0 true, .acq 0 true, .rel 0 true] (.inl ?_), ?_, rfl⟩
  · exact .seqN (.ev _) (.seqN (.ev _) (.ev _))
  · exact .cons (t := 0) rfl nofun (.cons (t := 1) rfl nofun .nil)

end FsDb.Properties.C15
