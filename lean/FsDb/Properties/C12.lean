import FsDb.Model.Async
/-!
# C12 — A created file stores the concatenation of its writes and Close always returns

Model: `Model/Async` (writer/closer and storing goroutine over mutex, condition variable, `closed`,
buffer, wait group).  The theorems are about the repaired code `good`; for the pin's code the two
witness theorems at the end exhibit the failing schedules (tests of the model, replayed on the real
code by the check).

The proofs go through `Step`, the transitions of the repaired code as a relation, and `Inv`, an
Owicki–Gries style proof outline: an assertion for each program point of the writer (`WAt`) and of
the storer (`SAt`), and the mutex discipline (`Lock`).
-/
namespace FsDb.C12
open FsDb.Async

/-- The repaired code: `Read` re-checks in a loop, `Close` sets `closed` under the mutex.  `cap := 4`: any positive
    read size would do; the proofs use only `0 < cap` (`storer_step`, case `read`). -/
def good : Cfg := { loopRecheck := true, closeLocked := true, cap := 4 }

/-! ### The transitions and the invariant: what holds in every reachable state (`C12_concat`, `C12_no_stuck`) -/

def woken : SPc → SPc
  | .sleep => .relock
  | s => s

theorem wake_eq (st : St) : wake st = { st with spc := woken st.spc } := by
  obtain ⟨_, _, _, s, _, _, _, _⟩ := st
  cases s <;> rfl

/-- One constructor for every branch of `step good` that returns a state (named after the step labels in the
    comments of `Async.step`), with the branch's guards as premises. -/
inductive Step (st : St) : Who → St → Prop
  | rdLock : st.spc = .idle → st.m = .none → Step st .S { st with m := .s, spc := .check }
  | rdWait : st.spc = .check → st.closed = false → st.buf = [] → Step st .S { st with spc := .enqueue }
  | rdTake : st.spc = .check → ¬(st.closed = false ∧ st.buf = []) → Step st .S { st with spc := .take }
  | cvWait : st.spc = .enqueue → Step st .S { st with m := .none, spc := .sleep }
  | relock : st.spc = .relock → st.m = .none → Step st .S { st with m := .s, spc := .check }
  | eof : st.spc = .take → st.buf = [] → Step st .S { st with m := .none, spc := .done }
  | read : st.spc = .take → st.buf ≠ [] →
      Step st .S { st with m := .none, spc := .idle, consumed := st.consumed ++ st.buf.take 4, buf := st.buf.drop 4 }
  | wrLock c sc : st.wpc = .ready → st.script = c :: sc → st.m = .none →
      Step st .W { st with m := .w, wpc := .append }
  | clLock : st.wpc = .ready → st.script = [] → st.m = .none → Step st .W { st with m := .w, wpc := .closeStore }
  | append c sc : st.wpc = .append → st.script = c :: sc →
      Step st .W { st with buf := st.buf ++ c, written := st.written ++ c, script := sc, m := .none, wpc := .signal }
  | signal : st.wpc = .signal → Step st .W { st with spc := woken st.spc, wpc := .ready }
  | clStore : st.wpc = .closeStore → Step st .W { st with closed := true, m := .none, wpc := .bcast }
  | bcast : st.wpc = .bcast → Step st .W { st with spc := woken st.spc, wpc := .waitDone }
  | clWait : st.wpc = .waitDone → st.spc = .done → Step st .W { st with wpc := .returned }

theorem wait_iff {cl : Bool} {b : List Nat} : (!cl && b.isEmpty) = true ↔ cl = false ∧ b = [] := by
  simp only [Bool.and_eq_true, Bool.not_eq_true', List.isEmpty_iff]

theorem Step.of_step : step good st a = some st' → Step st a st' := by
  fun_cases step good st a <;> rintro ⟨⟩
  next hs hm => exact .rdLock hs hm
  next hs hg => exact .rdWait hs (wait_iff.1 hg).1 (wait_iff.1 hg).2
  next hs hg => exact .rdTake hs (hg ∘ wait_iff.2)
  next hs => exact .cvWait hs
  next hs hm => exact .relock hs hm
  next hs hb => exact .eof hs (List.isEmpty_iff.1 hb)
  next hs hb => exact .read hs (hb ∘ List.isEmpty_iff.2)
  next hw c sc hsc hm => exact .wrLock c sc hw hsc hm
  next hw hsc _ hm => exact .clLock hw hsc hm
  -- the pin's unlocked Close is no transition of `good`: `good.closeLocked = true`
  next hc => exact absurd rfl hc
  next hw c sc hsc => exact .append c sc hw hsc
  next hw => rw [wake_eq]; exact .signal hw
  next hw => exact .clStore hw
  next hw => rw [wake_eq]; exact .bcast hw
  next hw hs => exact .clWait hw hs

def holdsS : SPc → Bool
  | .check | .enqueue | .take => true
  | _ => false

def holdsW : WPc → Bool
  | .append | .closeStore => true
  | _ => false

/-- When a goroutine cannot move under `good`.  The storer: it is outside its critical section and, if the mutex is
    free, asleep or done.  The writer: it has returned, waits in `Close` for a storer that is not done, waits for the
    mutex, or is at `append` with nothing left to append (which `WAt` excludes). -/
theorem blocked : step good st a = none →
    match a with
    | .S => holdsS st.spc = false ∧ (st.m = .none → st.spc = .sleep ∨ st.spc = .done)
    | .W => st.wpc = .returned ∨ st.wpc = .waitDone ∧ st.spc ≠ .done ∨ st.wpc = .ready ∧ st.m ≠ .none ∨
        st.wpc = .append ∧ st.script = [] := by
  fun_cases step good st a <;> rintro ⟨⟩
  next hs hm => exact ⟨hs ▸ rfl, fun h => absurd h hm⟩
  next hs => exact ⟨hs ▸ rfl, fun _ => .inl hs⟩
  next hs hm => exact ⟨hs ▸ rfl, fun h => absurd h hm⟩
  next hs => exact ⟨hs ▸ rfl, fun _ => .inr hs⟩
  next hw _ _ _ hm => exact .inr (.inr (.inl ⟨hw, hm⟩))
  next hw _ _ hm => exact .inr (.inr (.inl ⟨hw, hm⟩))
  next hw hsc => exact .inr (.inr (.inr ⟨hw, hsc⟩))
  next hw hs => exact .inr (.inl ⟨hw, hs⟩)
  next hw => exact .inl hw

/-- `Lock m s w`: the mutex is owned by exactly the actor that is inside its critical section
    (`s`: the storer is, `w`: the writer is) -/
inductive Lock : Owner → Bool → Bool → Prop
  | free : Lock .none false false
  | storer : Lock .s true false
  | writer : Lock .w false true

theorem Lock.acqS : Lock .none false x → Lock .s true x | .free => .storer
theorem Lock.relS : Lock m true x → Lock .none false x | .storer => .free
theorem Lock.acqW : Lock .none x false → Lock .w x true | .free => .writer
theorem Lock.relW : Lock m x true → Lock .none x false | .writer => .free
theorem Lock.eq_none : Lock m false false → m = .none | .free => rfl
theorem Lock.excl : ¬Lock m true true := nofun

theorem Lock.woken (h : Lock m (holdsS s) x) : Lock m (holdsS (woken s)) x := by
  cases s <;> exact h

/-- What the writer knows at each of its program points: the value of `closed`, how much of the
    script is left and, once `Close` has returned, that the storer is done (`d`). -/
def WAt (cl : Bool) (sc : List (List Nat)) (d : Bool) : WPc → Prop
  | .ready | .signal => cl = false
  | .append => cl = false ∧ sc ≠ []
  | .closeStore => cl = false ∧ sc = []
  | .bcast | .waitDone => cl = true ∧ sc = []
  | .returned => cl = true ∧ sc = [] ∧ d = true

theorem WAt.done (h : WAt cl sc d w) : WAt cl sc true w := by
  cases w
  case returned => exact ⟨h.1, h.2.1, rfl⟩
  all_goals exact h

def wakePending : WPc → Bool
  | .signal | .bcast => true
  | _ => false

/-- What the storer knows at each of its program points about `closed` and the buffer; `p`: the
    writer is about to signal or broadcast.  The `sleep` line says that no wake-up is lost: a
    sleeping storer has nothing to do unless a wake-up is on its way. -/
def SAt (cl : Bool) (b : List Nat) (p : Bool) : SPc → Prop
  | .enqueue => cl = false ∧ b = []
  | .sleep => (cl = false ∧ b = []) ∨ p = true
  | .take => ¬(cl = false ∧ b = [])
  | .done => cl = true ∧ b = []
  | _ => True

theorem SAt.woken (h : SAt cl b p s) : SAt cl b p' (woken s) := by
  cases s
  case sleep => trivial
  all_goals exact h

/-- The writer, inside its critical section and before `closed` is set, may change `closed` and the
    buffer at will if it then wakes the storer: the storer is neither inside its own critical
    section nor done. -/
theorem SAt.under_lock (hl : Lock m (holdsS s) true) (h : SAt cl b p s) (hc : cl = false) :
    SAt cl' b' true s := by
  cases s
  case enqueue | take => exact hl.excl.elim
  case sleep => exact .inr rfl
  case done => cases hc.symm.trans h.1
  all_goals trivial

/-- The proof outline.  `total` is the whole content (`script.flatten` of the initial script); `data`: what was
    consumed, what is buffered and what is still to be written make it up, in this order. -/
structure Inv (total : List Nat) (st : St) : Prop where
  data : st.consumed ++ st.buf ++ st.script.flatten = total
  lock : Lock st.m (holdsS st.spc) (holdsW st.wpc)
  wr : WAt st.closed st.script (st.spc == .done) st.wpc
  sr : SAt st.closed st.buf (wakePending st.wpc) st.spc

theorem Inv.step (h : Inv total st) (hs : Step st a st') : Inv total st' := by
  obtain ⟨m, cl, b, s, w, sc, wr, co⟩ := st
  -- the guards fix some components of the state; a part of `Inv` whose arguments the transition then changes only
  -- up to evaluation of the tables (`holdsS`, `holdsW`, `wakePending`) is passed on as it is
  cases hs <;> subst_eqs
  case rdLock => exact ⟨h.data, h.lock.acqS, h.wr, trivial⟩
  case rdWait => exact ⟨h.data, h.lock, h.wr, rfl, rfl⟩
  case rdTake g => exact ⟨h.data, h.lock, h.wr, g⟩
  case cvWait => exact ⟨h.data, h.lock.relS, h.wr, .inl h.sr⟩
  case relock => exact ⟨h.data, h.lock.acqS, h.wr, trivial⟩
  case eof =>
    -- there was something to do and the buffer is empty: `closed` is set
    exact ⟨h.data, h.lock.relS, h.wr.done, Bool.of_not_eq_false fun hc => h.sr ⟨hc, rfl⟩, rfl⟩
  case read => exact ⟨by rw [← h.data]; simp, h.lock.relS, h.wr, trivial⟩
  case wrLock => exact ⟨h.data, h.lock.acqW, ⟨h.wr, List.cons_ne_nil _ _⟩, h.sr⟩
  case clLock => exact ⟨h.data, h.lock.acqW, ⟨h.wr, rfl⟩, h.sr⟩
  case append =>
    exact ⟨by rw [← h.data]; simp, h.lock.relW, h.wr.1, h.sr.under_lock h.lock h.wr.1⟩
  case signal => exact ⟨h.data, h.lock.woken, h.wr, h.sr.woken⟩
  case clStore => exact ⟨h.data, h.lock.relW, ⟨rfl, h.wr.2⟩, h.sr.under_lock h.lock h.wr.1⟩
  case bcast => exact ⟨h.data, h.lock.woken, h.wr, h.sr.woken⟩
  case clWait => exact ⟨h.data, h.lock, ⟨h.wr.1, h.wr.2, rfl⟩, h.sr⟩

/-- states reachable from the initial state of a script, by any schedule -/
inductive Reach (script : List (List Nat)) : St → Prop
  | init : Reach script (init script)
  | step (st st' : St) (a : Who) : Reach script st → step good st a = some st' → Reach script st'

theorem Inv.reach (h : Reach script st) : Inv script.flatten st := by
  induction h with
  | init => exact ⟨rfl, .free, rfl, trivial⟩
  | step _ _ _ _ hs ih => exact ih.step (.of_step hs)

/-- **Concatenation.** For every sequence of writes (any sizes, including empty ones) and every
    interleaving of the writer with the storing goroutine: once `Close` has returned, the storer has
    consumed exactly the concatenation of all written bytes, is done, and the buffer is empty. -/
theorem C12_concat (script : List (List Nat)) (st : St) (h : Reach script st) (hret : st.wpc = .returned) :
    st.consumed = script.flatten ∧ st.spc = .done ∧ st.buf = [] := by
  have i := Inv.reach h
  obtain ⟨m, cl, b, s, w, sc, wr, co⟩ := st
  obtain rfl : w = .returned := hret
  obtain ⟨_, rfl, hd⟩ := i.wr
  obtain rfl : s = .done := eq_of_beq hd
  obtain ⟨_, rfl⟩ := i.sr
  exact ⟨by simpa using i.data, rfl, rfl⟩

/-- **Close always returns (no stuck state).**  In every reachable state in which `Close` has not
    yet returned, the writer or the storing goroutine can take a step: no deadlock, no lost
    wake-up, for every script and schedule. -/
theorem C12_no_stuck (script : List (List Nat)) (st : St) (h : Reach script st) (hnr : st.wpc ≠ .returned) :
    stuck good st = false := by
  have i := Inv.reach h
  obtain ⟨m, cl, b, s, w, sc, wr, co⟩ := st
  refine Bool.eq_false_iff.2 fun hst => ?_
  simp only [stuck, Bool.and_eq_true, Option.isNone_iff_eq_none] at hst
  obtain ⟨hs, hfree⟩ := blocked hst.2
  -- the blocked storer is outside its critical section: unless the writer is inside its own,
  -- the mutex is free
  have hl : Lock m (holdsS s) (holdsW w) := i.lock
  rw [hs] at hl
  rcases blocked hst.1 with rfl | ⟨rfl, hd⟩ | ⟨rfl, hm⟩ | ⟨rfl, rfl⟩
  · exact hnr rfl
  · -- `Close` waits for a storer that is not done: with the mutex free it must be asleep, though
    -- `closed` is set and no wake-up is pending
    rcases hfree hl.eq_none with rfl | rfl
    · rcases i.sr with ⟨hc, _⟩ | hp
      · cases hc.symm.trans i.wr.1
      · cases hp
    · exact hd rfl
  · exact hm hl.eq_none
  · exact i.wr.2 rfl

/-! ### Termination without a fairness assumption

Every step of EITHER goroutine strictly decreases one natural number, `mu` (`C12_every_step_progress`, hence
`C12_close_returns`).  The writer's steps decrease `measure`; a wake-up (which lets the storer run its re-lock /
re-check / sleep cycle once more) is part of a writer step; the storer's other cycle moves at least one byte out of
the buffer. -/

def wSteps : WPc → Nat
  | .ready => 6 | .append => 5 | .signal => 7 | .closeStore => 3 | .bcast => 2 | .waitDone => 1 | .returned => 0

/-- `measure` strictly decreases with every step of the writer (`append` goes from 5 up to 7 but
    takes a chunk, worth 8, off the script) and the storer's steps leave it unchanged. -/
def measure (st : St) : Nat := 8 * st.script.length + wSteps st.wpc

theorem C12_writer_progress (st st' : St) (hs : step good st .W = some st') : measure st' < measure st := by
  cases Step.of_step hs <;> simp +arith only [measure, wSteps, *, List.length_cons]

def sPos : SPc → Nat
  | .idle => 4 | .check => 3 | .enqueue => 2 | .sleep => 1 | .relock => 4 | .take => 2 | .done => 0

def pendingBytes (st : St) : Nat := st.buf.length + (st.script.map List.length).sum

/-- `16 * measure`: the writer's steps still to come, each worth more than the 3 by which the wake-up in it can set
    the storer back; `8 * pendingBytes`: the bytes not yet consumed, each worth more than the 2 by which a read
    sets the storer back; `sPos`: how far the storer is from the end of its current cycle. -/
def mu (st : St) : Nat := 16 * measure st + 8 * pendingBytes st + sPos st.spc

theorem sPos_woken (s : SPc) : sPos (woken s) ≤ sPos s + 3 := by
  cases s <;> decide

theorem writer_step (hs : Step st .W st') : pendingBytes st' = pendingBytes st ∧ sPos st'.spc ≤ sPos st.spc + 3 := by
  cases hs
  case append c sc _ hsc =>
    exact ⟨by simp +arith only [pendingBytes, hsc, List.length_append, List.map_cons, List.sum_cons], Nat.le_add_right _ _⟩
  case signal | bcast => exact ⟨rfl, sPos_woken _⟩
  all_goals exact ⟨rfl, Nat.le_add_right _ _⟩

theorem storer_step (hs : Step st .S st') :
    measure st' = measure st ∧ 8 * pendingBytes st' + sPos st'.spc < 8 * pendingBytes st + sPos st.spc := by
  cases hs
  case read hs hb =>
    -- the pc goes up by 2, but at least one byte (worth 8) leaves the buffer
    have := List.length_pos_iff.2 hb
    refine ⟨rfl, ?_⟩
    simp only [pendingBytes, sPos, hs, List.length_drop]
    omega
  all_goals exact ⟨rfl, Nat.add_lt_add_left (by simp +arith only [sPos, *]) _⟩

theorem C12_every_step_progress (st st' : St) (a : Who) (hs : step good st a = some st') : mu st' < mu st := by
  simp only [mu]
  cases a with
  | W =>
    -- the writer's step is worth 16, the wake-up costs at most 3
    have := C12_writer_progress st st' hs
    have := writer_step (.of_step hs)
    omega
  | S =>
    obtain ⟨hm, hlt⟩ := storer_step (.of_step hs)
    simpa only [hm, Nat.add_assoc] using Nat.add_lt_add_left hlt (16 * measure st)

/-- a run of `n` steps uses up at least `n` of the measure -/
theorem C12_run_bounded (st st' : St) (as : List Who) (h : run good st as = some st') :
    as.length + mu st' ≤ mu st := by
  fun_induction run good st as with
  | case1 => cases h; exact Nat.le_of_eq (Nat.zero_add _)
  | case2 st a as s1 hs ih =>
    rw [List.length_cons, Nat.add_right_comm]
    exact Nat.lt_of_le_of_lt (ih h) (C12_every_step_progress st s1 a hs)
  | case3 => cases h

theorem run_reach (hr : Reach script st) (h : run good st as = some st') : Reach script st' := by
  fun_induction run good st as with
  | case1 => cases h; exact hr
  | case2 st a as s1 hs ih => exact ih (hr.step _ _ _ hs) h
  | case3 => cases h

/-- **Close returns, under every scheduler.**  For every script (any number of writes of any sizes,
    empty ones included): no schedule is longer than `mu (init script)` steps, and a schedule that
    cannot be extended — neither goroutine can move — has `Close` returned, with the whole content
    delivered (`C12_concat`).  No fairness is assumed: the scheduler may do what it likes with the
    two goroutines, as long as it runs one that can run. -/
theorem C12_close_returns (script : List (List Nat)) (as : List Who) (st : St)
    (h : run good (init script) as = some st) :
    as.length ≤ mu (init script) ∧ (stuck good st = true → st.wpc = .returned) := by
  refine ⟨Nat.le_trans (Nat.le_add_right _ _) (C12_run_bounded _ _ _ h), fun hst => Decidable.by_contra fun hne => ?_⟩
  rw [C12_no_stuck script st (run_reach .init h) hne] at hst
  cases hst

example : mu (init [[1, 2, 3], [], [4, 5, 6, 7, 8, 9]]) = 556 := by decide

/-- `Read` with `if` instead of `for` (no re-check after the wake-up): an empty `Write` wakes the
    storer, which finds the buffer empty and reports end-of-stream; `Close` returns nil and the
    content is truncated.  Script `[1], [], [2]`; the storer consumed `[1]`. -/
theorem C12_empty_write_witness :
    ∃ st, run { loopRecheck := false, closeLocked := true, cap := 4 } (init [[1], [], [2]])
        [.W, .W, .W, .S, .S, .S, .S, .S, .S, .W, .W, .W, .S, .S, .W, .W, .W, .W, .W, .W, .W] = some st ∧
      st.wpc = .returned ∧ st.consumed = [1] :=
  ⟨_, rfl, rfl, rfl⟩

/-- `Close` sets `closed` and broadcasts without the mutex: the storer has decided to wait but has
    not yet enqueued; the broadcast finds nobody; the storer sleeps for ever and `Close` blocks in
    the wait group: nobody can move and `Close` has not returned. -/
theorem C12_lost_wakeup_witness :
    ∃ st, run { loopRecheck := true, closeLocked := false, cap := 4 } (init []) [.S, .S, .W, .W, .S] = some st ∧
      st.wpc ≠ .returned ∧ stuck { loopRecheck := true, closeLocked := false, cap := 4 } st = true :=
  ⟨_, rfl, by decide⟩

/-- non-vacuity: the same two schedules on the repaired model end well -/
example : ∃ st, run good (init [[1], [], [2]])
    [.W, .W, .W, .S, .S, .S, .S, .S, .S, .W, .W, .W, .S, .S, .S, .W, .W, .W, .S, .S, .S, .W, .W, .W, .S, .S, .S, .W] = some st ∧
    st.wpc = .returned ∧ st.consumed = [1, 2] :=
  ⟨_, rfl, rfl, rfl⟩

end FsDb.C12
