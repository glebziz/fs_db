import FsDb.Model.Config
/-!
# C20 — Configuration: defaults < file < environment, with validation
All statements quantify over every combination of layer states of all seven settings.
-/
namespace FsDb.C20
open FsDb.Config

def noMalformed (l : Layers) : Prop :=
  ∀ s ∈ l.toList, s.file ≠ .malformed ∧ s.env ≠ .malformed

/-- the precedence rule for one setting -/
def expected (s : Setting) : Tok :=
  match s.env, s.file with
  | .present, _ => .E
  | .zero, _ => .Z
  | _, .present => .F
  | _, .zero => .Z
  | _, _ => .D

/-- `expected` is written independently of `afterFile` and `afterEnv`; that they agree is a check of the
    4 × 5 layer states. -/
theorem afterEnv_bind {α} (s : Setting) (k : Tok → Except Err α) :
    afterEnv s >>= k = if s.env = .malformed then .error .envParse else k (expected s) := by
  obtain ⟨f, e⟩ := s
  cases f <;> cases e <;> rfl

theorem forall_mem_toList {l : Layers} {p : Setting → Prop} :
    (∀ s ∈ l.toList, p s) ↔
      p l.port ∧ p l.dbPath ∧ p l.dirCount ∧ p l.rootDirs ∧ p l.gcPeriod ∧ p l.numWorkers ∧ p l.sendDuration := by
  simp only [Layers.toList, List.forall_mem_cons, List.not_mem_nil, false_imp_iff, implies_true, and_true]

theorem ite_not_and {α} {p q : Prop} [Decidable p] [Decidable q] (a b : α) :
    (if ¬p ∧ q then a else b) = if p then b else if q then a else b := by
  by_cases h : p <;> simp [h]

theorem parseConfig_true (l : Layers) :
    parseConfig true l =
      if ∃ s ∈ l.toList, s.file = .malformed then .error .decode
      else if ∀ s ∈ l.toList, s.env ≠ .malformed then
        .ok ⟨expected l.port, expected l.dbPath, expected l.dirCount, expected l.rootDirs,
          expected l.gcPeriod, expected l.numWorkers, expected l.sendDuration⟩
      else .error .envParse := by
  -- both sides become the cascade `if l.port.env = .malformed then .error .envParse else if …`
  simp only [parseConfig, ↓reduceIte, List.any_eq_true, beq_iff_eq, afterEnv_bind, forall_mem_toList, ite_not_and,
    ite_not]
  rfl

/-- A malformed configuration file is reported as such whatever the environment holds: the file
    is decoded before the environment is consulted. -/
theorem C20_decode_error_first (l : Layers) (h : ∃ s ∈ l.toList, s.file = .malformed) :
    parseConfig true l = .error .decode := by
  rw [parseConfig_true, if_pos h]

/-- If nothing is malformed, ParseConfig (with a configuration file) succeeds and every setting is `expected`: the
    environment's value if it is set to a non-zero value; the zero value if the environment holds a well-formed
    zero ("0", "0s"), even when the file has a value; otherwise (unset or empty in the environment) the file's
    value if present, the zero value if the file holds a zero, else the default. -/
theorem C20_precedence (l : Layers) (h : noMalformed l) :
    parseConfig true l = .ok ⟨expected l.port, expected l.dbPath, expected l.dirCount,
      expected l.rootDirs, expected l.gcPeriod, expected l.numWorkers, expected l.sendDuration⟩ := by
  rw [parseConfig_true, if_neg fun ⟨s, hs, hm⟩ => (h s hs).1 hm, if_pos fun s hs => (h s hs).2]

/-- without a configuration file the file layer is ignored altogether -/
theorem C20_no_file (l : Layers) (h : ∀ s ∈ l.toList, s.env ≠ .malformed) :
    ∃ e, parseConfig false l = .ok e ∧
      e.port = expected ⟨.absent, l.port.env⟩ ∧ e.dbPath = expected ⟨.absent, l.dbPath.env⟩ ∧
      e.dirCount = expected ⟨.absent, l.dirCount.env⟩ ∧ e.rootDirs = expected ⟨.absent, l.rootDirs.env⟩ ∧
      e.gcPeriod = expected ⟨.absent, l.gcPeriod.env⟩ ∧ e.numWorkers = expected ⟨.absent, l.numWorkers.env⟩ ∧
      e.sendDuration = expected ⟨.absent, l.sendDuration.env⟩ := by
  -- `parseConfig false l` is by definition `parseConfig true` of `l` with every file layer absent
  obtain ⟨h1, h2, h3, h4, h5, h6, h7⟩ := forall_mem_toList.mp h
  have na : FileL.absent ≠ .malformed := nofun
  exact ⟨_, C20_precedence ⟨⟨.absent, l.port.env⟩, ⟨.absent, l.dbPath.env⟩, ⟨.absent, l.dirCount.env⟩,
      ⟨.absent, l.rootDirs.env⟩, ⟨.absent, l.gcPeriod.env⟩, ⟨.absent, l.numWorkers.env⟩,
      ⟨.absent, l.sendDuration.env⟩⟩
    (forall_mem_toList.mpr ⟨⟨na, h1⟩, ⟨na, h2⟩, ⟨na, h3⟩, ⟨na, h4⟩, ⟨na, h5⟩, ⟨na, h6⟩, ⟨na, h7⟩⟩),
    rfl, rfl, rfl, rfl, rfl, rfl, rfl⟩

/-- A malformed value in any consulted layer is reported as an error, never replaced silently. -/
theorem C20_malformed_is_error (l : Layers)
    (h : ∃ s ∈ l.toList, s.file = .malformed ∨ s.env = .malformed) :
    ∃ err, parseConfig true l = .error err ∧ (err = .decode ∨ err = .envParse) := by
  rw [parseConfig_true]
  split
  · exact ⟨_, rfl, .inl rfl⟩
  · next hf =>
    obtain ⟨s, hs, hm | hm⟩ := h
    · exact absurd ⟨s, hs, hm⟩ hf
    · rw [if_neg fun he => he s hs hm]
      exact ⟨_, rfl, .inr rfl⟩

theorem valid_eq (e : Eff) :
    valid e =
      if e.dbPath = .Z then .error .emptyDbPath
      else if e.rootDirs = .Z then .error .emptyRootDirs
      else .ok { e with dirCount := if belowMin e.dirCount then .C else e.dirCount } := by
  have clamp : (if belowMin e.dirCount then { e with dirCount := .C } else e) =
      { e with dirCount := if belowMin e.dirCount then .C else e.dirCount } := by
    cases belowMin e.dirCount <;> rfl
  simp only [valid, beq_iff_eq, clamp]

/-- Validation: empty database path and empty root list are rejected with the documented errors;
    a directory limit below 100 becomes 100 and nothing else changes. -/
theorem C20_valid (e : Eff) :
    (e.dbPath = .Z → valid e = .error .emptyDbPath) ∧
    (e.dbPath ≠ .Z → e.rootDirs = .Z → valid e = .error .emptyRootDirs) ∧
    (e.dbPath ≠ .Z → e.rootDirs ≠ .Z →
      valid e = .ok { e with dirCount := if belowMin e.dirCount then .C else e.dirCount }) := by
  rw [valid_eq]
  exact ⟨fun h => if_pos h, fun h1 h2 => by rw [if_neg h1, if_pos h2], fun h1 h2 => by rw [if_neg h1, if_neg h2]⟩

theorem belowMin_clamp (t : Tok) : belowMin (if belowMin t then .C else t) = false := by
  cases t <;> rfl

/-- Validation is idempotent: a configuration that passed validation passes it again unchanged
    (`inline.Open` validates a configuration that `ParseConfig`'s caller may already have validated). -/
theorem C20_valid_idempotent (e e' : Eff) (h : valid e = .ok e') : valid e' = .ok e' := by
  rw [valid_eq] at h
  by_cases h1 : e.dbPath = .Z
  · rw [if_pos h1] at h; cases h
  by_cases h2 : e.rootDirs = .Z
  · rw [if_neg h1, if_pos h2] at h; cases h
  rw [if_neg h1, if_neg h2] at h
  cases h
  rw [valid_eq, if_neg h1, if_neg h2]
  simp only [belowMin_clamp]
  rfl

/-- The whole of `load` (parse, then validate) when nothing is malformed: it fails exactly when the
    effective database path or root list is the zero value, and otherwise yields the precedence
    result with only the directory limit possibly raised. -/
theorem C20_load (l : Layers) (h : noMalformed l) :
    load true l =
      if expected l.dbPath = .Z then .error .emptyDbPath
      else if expected l.rootDirs = .Z then .error .emptyRootDirs
      else .ok ⟨expected l.port, expected l.dbPath,
        if belowMin (expected l.dirCount) then .C else expected l.dirCount,
        expected l.rootDirs, expected l.gcPeriod, expected l.numWorkers, expected l.sendDuration⟩ := by
  rw [load, C20_precedence l h]
  exact valid_eq _

/-- non-vacuity: a mixed configuration -/
example : load true ⟨⟨.present, .unset⟩, ⟨.absent, .present⟩, ⟨.present, .empty⟩, ⟨.absent, .unset⟩,
    ⟨.present, .present⟩, ⟨.absent, .empty⟩, ⟨.zero, .unset⟩⟩ = .ok ⟨.F, .E, .C, .D, .E, .D, .Z⟩ := rfl

end FsDb.C20
