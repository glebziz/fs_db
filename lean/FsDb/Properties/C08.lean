import FsDb.Properties.C06
/-!
# C08 — Snapshot transactions see one consistent, stable snapshot

With the commit as one atomic step that stamps all its versions with ONE number (tie: skeleton of
`UpdateTx`, `Begin`, `cleaner.DeleteOld`; enforced schedules on the real code), the property is a
statement about histories of atomic steps, proved on the specification and carried to the concrete
model by `Refine.run` (which includes the collector: `Rx.hist` keeps exactly what open snapshots need).
-/
namespace FsDb.C08
open FsDb Spec

/-- what a snapshot that began at `b` sees of key `k` when it has not written `k` itself -/
def snapshotOf (s : State) (b : Nat) (k : Key) : Option SVer := ((s.hist k).filter (fun v => v.stamp < b)).getLast?

/-- **Stable snapshot.**  For a snapshot that began at `b ≤ clock` (every open transaction:
    `SInv.beginLe`), no operation of anybody — commits, autocommit writes, other Begins, collector; not
    Close/Open — changes what it sees of any key. -/
theorem C08_repeatable_step (s : State) (op : Op) (hop : ∀ f, op ≠ .reopen f) (b : Nat) (hb : b ≤ s.clock) (k : Key) :
    snapshotOf (Spec.step s op).1 b k = snapshotOf s b k := by
  unfold snapshotOf
  -- a version the step appends carries the stamp `clock + 1`, which is not below `b`
  rcases (step_grew hop).2 k with h | ⟨_, val, h⟩ <;> rw [h]
  rw [List.filter_append, List.filter_cons_of_neg (by simpa using Nat.le_succ_of_le hb), List.filter_nil, List.append_nil]

/-- **Stable snapshot**, for any history without Close/Open: what a snapshot that began at `b ≤ clock` sees of a key
    it has not written (`snapshotOf`) is the same after the history as before — re-reading returns the same
    result for as long as the snapshot is open. -/
theorem C08_repeatable (s : State) (ops : List Op) (hops : ∀ op ∈ ops, ∀ f, op ≠ .reopen f) (b : Nat)
    (hb : b ≤ s.clock) (k : Key) : snapshotOf (Spec.run s ops).1 b k = snapshotOf s b k := by
  induction ops generalizing s with
  | nil => rfl
  | cons op ops ih =>
    obtain ⟨hop, hrest⟩ := List.forall_mem_cons.mp hops
    exact (ih _ hrest (Nat.le_trans hb (step_grew hop).1)).trans (C08_repeatable_step s op hop b hb k)

/-- **Atomic visibility.**  Every version a Commit adds to the history of any key carries the one stamp
    `clock + 1`; and a snapshot that began before (`b ≤ clock`) sees of every key what it saw (`snapshotOf`), so
    none of them.  (Any `Spec.commit`, successful or not.  Not stated: a snapshot that begins afterwards draws a
    begin stamp above `clock + 1`, see `Spec.begin`, and so has all of them below it.) -/
theorem C08_atomic_visibility (s : State) (t : Nat) :
    (∀ b, b ≤ s.clock → ∀ k, snapshotOf (Spec.commit s t).1 b k = snapshotOf s b k) ∧
    (∀ k v, v ∈ (Spec.commit s t).1.hist k → v ∉ s.hist k → v.stamp = s.clock + 1) := by
  refine ⟨fun b hb k => C08_repeatable_step s (.commit t) nofun b hb k, fun k v hv hnv => ?_⟩
  rcases (step_grew (op := .commit t) nofun).2 k with h | ⟨_, val, h⟩ <;> rw [show (Spec.commit s t).1.hist k = _ from h] at hv
  · exact absurd hv hnv
  · rcases List.mem_append.mp hv with hv | hv
    · exact absurd hv hnv
    · rw [List.mem_singleton.mp hv]

/-- In any pair of states related by `R` — a relation collector passes keep (`Refine.step`) — and for any
    registered transaction `r`: the snapshot view at its begin number is what the concrete model's lookup
    `lastBefore` finds in the main list (this is `snapshot_eq`, part of the refinement). -/
theorem C08_concrete_snapshot {c : Sys} {s : State} (h : R c s) (k : Key) {r : TxRec} (hr : r ∈ c.reg) :
    snapshotOf s r.seq k = (Sys.lastBefore (c.main k) r.seq).map absV := h.snapshot_eq k hr (by simp)

/-- non-vacuity: reader 2 began before the two-key commit and sees neither key change; reader 3
    begins after it and sees both -/
example : (Spec.run {} [.set 0 "a" 1, .set 0 "b" 2, .begin 2 .ser, .begin 1 .rc, .set 1 "a" 10, .set 1 "b" 20,
    .commit 1, .get 2 "a", .get 2 "b", .gc, .begin 3 .rr, .get 3 "a", .get 3 "b", .get 2 "a"]).2
    = [.ok, .ok, .ok, .ok, .ok, .ok, .ok, .val 1, .val 2, .ok, .ok, .val 10, .val 20, .val 1] := rfl

/-- **Regardless of concurrently running commits, autocommit writes, Begins and collector passes**: in the
    small-step model `Model/Conc` (two critical sections per lookup, content fetched afterwards, retried when the
    content was reclaimed) a `Get` about to return `o` returns the specification's answer in the state after the
    first `witAt` operations of the log, a point between its call and its return.  This is the statement of
    `C06_get_linearizable`: any Get, not only one of a snapshot transaction.  That a snapshot transaction's
    answer for a key it has not written does not depend on that point (with `C08_repeatable`) and contains all
    or none of any commit (with `C08_atomic_visibility`) is an inference from those theorems about `snapshotOf`,
    which no theorem here draws. -/
theorem C08_concurrent_read (acts : List Conc.Act) (i t : Nat) (k : Key) (o : Out)
    (hret : ((Conc.exec {} acts).thr i).pc = .ret o)
    (hop : ((Conc.exec {} acts).thr i).op = some (.get t k)) :
    let σ := Conc.exec {} acts
    let th := σ.thr i
    th.invAt ≤ th.witAt ∧ th.witAt ≤ σ.lin.length ∧ o = Spec.get (Conc.pureAt σ th.witAt) t k :=
  C06.C06_get_linearizable acts i t k o hret hop

end FsDb.C08
