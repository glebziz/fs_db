import FsDb.Proofs.ConcMain
/-!
# C06 — Concurrent operations are individually atomic (linearizable), with no deadlock

What is proved here, and what is tied rather than proved:

* `C06_atomic_steps_refine`: every operation, executed as ONE atomic step, answers what the
  specification answers, for all histories = all interleavings of atomic steps (this is the
  refinement theorem; the collector and the background cleanup are steps of the same system).
* `C06_no_wait_cycle`, `C06_lock_order`: ordered lock acquisition excludes wait cycles.  The lock
  classes and the acquired-while-holding edges of `usecase/core` are listed in `lockEdges` and checked
  against the order `userTx < mainTxL < allStore < leaf`; the functions they are read off are tied by
  their skeleton texts (FsDb/Tie).
* `C06_log_is_spec_history`, `C06_linearizable`, `C06_progress`: the SMALL-STEP model `Model/Conc` —
  every operation a sequence of critical sections / Badger accesses / file operations, any number of
  goroutines, any client programs, any schedule — is linearizable and no state of it is dead-locked;
  GetKeys excepted (`C06_getkeys_not_atomic`: the open known finding, as a theorem about the model;
  `C06_getkeys_subset` is what holds of it).
* What remains checked rather than proved: that the critical sections of the real code are the steps
  of `Model/Conc` (tied by the skeleton texts and by enforced schedules on the real database whose
  answers must be linearizable against `Spec.Iso`), and the two contractions of the model (an
  in-flight content lives under a private id until `core.Store` publishes it; Begin draws its number
  and registers in one step).  The window between the registry removal and `UpdateTx`/`DeleteTx`
  inside Commit/Rollback is modelled (`closing`, `C06_commit_window_witness`).
-/
namespace FsDb.C06
open FsDb Spec

theorem C06_atomic_steps_refine {c : Sys} {s : State} (h : R c s) (ops : List Op) (hops : ∀ op ∈ ops, op.core = true) :
    (c.run ops).2 = (Spec.run s ops).2 ∧ R (c.run ops).1 (Spec.run s ops).1 :=
  Refine.run h ops hops

/-- an actor (a goroutine) holds some locks and may be waiting for one -/
structure Actor where
  held  : List Nat
  waits : Option Nat

/-- ordered acquisition: an actor only ever waits for a lock above everything it holds -/
def Ordered (a : Actor) : Prop := ∀ w, a.waits = some w → ∀ h ∈ a.held, h < w

/-- `chain as w0 w`: following the actors `as` in turn, each waits for a lock held by the next;
    the first waits for `w0`, the last one's own awaited lock is `w` -/
inductive Chain : List Actor → Nat → Nat → Prop
  | single (a : Actor) (w : Nat) : a.waits = some w → Chain [a] w w
  | cons (a : Actor) (w : Nat) (b : Actor) (rest : List Actor) (w' wl : Nat) :
      a.waits = some w → w ∈ b.held → Chain (b :: rest) w' wl → Chain (a :: b :: rest) w wl

theorem Chain.head_waits {a : Actor} {rest : List Actor} {w0 wl : Nat} (h : Chain (a :: rest) w0 wl) :
    a.waits = some w0 := by
  cases h with
  | single _ _ h => exact h
  | cons _ _ _ _ _ _ h => exact h

theorem chain_increasing {as : List Actor} {w0 wl : Nat} (h : Chain as w0 wl) (hord : ∀ a ∈ as, Ordered a) :
    w0 ≤ wl := by
  induction h with
  | single a w _ => exact Nat.le_refl _
  | cons a w b rest w' wl hw hheld hrest ih =>
    -- `b` holds `w` and waits for `w'`, the head of the rest of the chain: `w < w'`
    exact Nat.le_trans
      (Nat.le_of_lt (hord b (List.mem_cons_of_mem _ List.mem_cons_self) w' hrest.head_waits w hheld))
      (ih fun x hx => hord x (List.mem_cons_of_mem _ hx))

/-- No deadlock by lock ordering: a wait cycle (a chain whose last actor waits for a lock held by
    the first) is impossible when all actors acquire in order. -/
theorem C06_no_wait_cycle (as : List Actor) (w0 wl : Nat) (hc : Chain as w0 wl) (hord : ∀ a ∈ as, Ordered a)
    (first : Actor) (hfirst : as.head? = some first) (hclose : wl ∈ first.held) : False := by
  -- the first actor waits for `w0`, below `wl`, and holds `wl`
  obtain ⟨rest, rfl⟩ := List.head?_eq_some_iff.mp hfirst
  exact Nat.lt_irrefl _
    (Nat.lt_of_lt_of_le (hord first List.mem_cons_self w0 hc.head_waits wl hclose) (chain_increasing hc hord))

/-! lock classes of `usecase/core` -/
def userTx : Nat := 0
def mainTxL : Nat := 1
def allStore : Nat := 2
def leaf : Nat := 3

/-- acquired-while-holding edges read off the functions (Store, UpdateTx, DeleteTx, DeleteOld; the
    getters hold one lock at a time): (held, then acquired) -/
def lockEdges : List (Nat × Nat) :=
  [ (userTx, allStore),       -- core.Store on a transaction: tx.Lock, allStore.Lock
    (mainTxL, allStore),      -- core.Store on main / DeleteOld: main.Lock, allStore.Lock
    (userTx, mainTxL),        -- UpdateTx: tx.Lock, main.Lock
    (mainTxL, allStore),      -- UpdateTx: main.Lock, allStore.Lock
    (userTx, allStore),       -- DeleteTx: tx.Lock, allStore.Lock
    (userTx, leaf), (mainTxL, leaf), (allStore, leaf) ]  -- pools, txStore map, registry under any of them

/-- every edge goes up in the order `userTx < mainTxL < allStore < leaf`: acquisition is ordered -/
theorem C06_lock_order : ∀ e ∈ lockEdges, e.1 < e.2 := by decide

open FsDb.Conc

/-- **The log is a legal sequential history.**  For every schedule of every client programs (any
    number of goroutines; `acts` is any list of calls and steps, disabled ones are skipped): the
    state-changing operations in the order of their linearization points, with the answers logged
    there, are what the specification answers when it executes them one after the other; and the
    shared state (`withBusy`: the deletion jobs in execution put back) is related to the
    specification state. -/
theorem C06_log_is_spec_history (acts : List Act) :
    let σ := exec {} acts
    -- the specification executing the operations of the log (a number drawn for nothing by the
    -- collector's horizon step is logged as a counter advance; `opsOf` erases those) gives exactly
    -- the logged answers …
    (Spec.run {} (opsOf (linOps σ.lin))).2 = linOuts σ.lin ∧
    -- … and the shared state is related to the specification state that follows the counter; the
    -- transactions inside Commit / Rollback (`closing`) are exempt from the snapshot clause: they
    -- read nothing any more
    Rx σ.closing (withBusy σ) (Spec.erun {} (linOps σ.lin)).1 :=
  ⟨log_pure (reachable_inv acts), (reachable_inv acts).rel⟩

theorem at_ret (acts : List Act) {i : Nat} {o : Out} (hret : ((exec {} acts).thr i).pc = .ret o) :
    PcInv (exec {} acts) i ((exec {} acts).thr i) (.ret o) :=
  hret ▸ ((reachable_inv acts).thr i).pc

/-- **Every answer is the atomic answer at a point between call and return.**  In every reachable
    state, when thread `i` is about to return `o` from an operation other than GetKeys: the ghost
    witness is `o`, it was taken at a log position `witAt` with `invAt ≤ witAt ≤ |log|` (`invAt`:
    the log length at the call), and
    * for `Get t k`: `o` is the specification's answer in the state after the first `witAt` log entries
      (`specAt`, which follows the counter advances of the log; `C06_get_linearizable` states it for
      the specification executing the operations alone);
    * for Set/Delete/Begin/Commit/Rollback/gc/drain: the log entry at position `witAt - 1 ≥ invAt`
      is exactly `(i, op, o)` — by `C06_log_is_spec_history` the specification's answer there. -/
theorem C06_linearizable (acts : List Act) (i : Nat) (o : Out)
    (hret : ((exec {} acts).thr i).pc = .ret o) (hk : isKeys ((exec {} acts).thr i).op = false) :
    let σ := exec {} acts
    let th := σ.thr i
    th.wit = some o ∧ th.invAt ≤ th.witAt ∧ th.witAt ≤ σ.lin.length ∧ WitSem σ i th o :=
  have hw := (at_ret acts hret).1 hk
  ⟨hw, ((reachable_inv acts).thr i).wit o hw⟩

/-- `C06_linearizable` spelled out for `Get`.  Under every schedule, when thread `i` is about to return `o` from
    `Get t k`: `o` is the specification's answer to that Get in `pureAt σ witAt`, the state the specification
    reaches by executing alone the operations among the first `witAt` log entries (counter advances erased), and
    `invAt ≤ witAt ≤ |log|`: a point between call and return. -/
theorem C06_get_linearizable (acts : List Act) (i t : Nat) (k : Key) (o : Out)
    (hret : ((exec {} acts).thr i).pc = .ret o) (hop : ((exec {} acts).thr i).op = some (.get t k)) :
    let σ := exec {} acts
    let th := σ.thr i
    th.invAt ≤ th.witAt ∧ th.witAt ≤ σ.lin.length ∧ o = Spec.get (pureAt σ th.witAt) t k := by
  intro σ th
  obtain ⟨_, a, b, c⟩ := C06_linearizable acts i o hret (by rw [hop]; rfl)
  exact ⟨a, b, ((witSem_read hop rfl).mp c).trans (specAt_get_pure (reachable_inv acts) _ t k)⟩

/-- `C06_linearizable` spelled out for a state-changing operation (`notRead`: all but Get and GetKeys).  Under
    every schedule, when thread `i` is about to return `o` from `op`: the log entry at position `witAt - 1` is
    exactly `(i, op, o)`, and `invAt < witAt ≤ |log|`: it was logged between call and return.  (That the logged
    answer is the specification's is `C06_log_is_spec_history`.) -/
theorem C06_write_linearizable (acts : List Act) (i : Nat) (op : Op) (o : Out)
    (hret : ((exec {} acts).thr i).pc = .ret o) (hop : ((exec {} acts).thr i).op = some op)
    (hm : notRead op = true) :
    let σ := exec {} acts
    let th := σ.thr i
    th.invAt < th.witAt ∧ th.witAt ≤ σ.lin.length ∧ σ.lin[th.witAt - 1]? = some (i, .op op, o) := by
  intro σ th
  obtain ⟨_, _, b, c⟩ := C06_linearizable acts i o hret (by rw [hop]; cases op <;> first | rfl | cases hm)
  exact ⟨((witSem_write hop hm).mp c).1, b, ((witSem_write hop hm).mp c).2⟩

/-- **GetKeys never invents a key** (what is left of its linearizability): under every schedule,
    every key a GetKeys returns was listed by the specification's GetKeys in the state after the log
    prefix at its linearization point — a point between its call and its return.  Keys can be missing
    (`C06_getkeys_not_atomic`: a version reclaimed while GetKeys was reading the content records). -/
theorem C06_getkeys_subset (acts : List Act) (i t : Nat) (ks : List Key)
    (hret : ((exec {} acts).thr i).pc = .ret (.keys ks)) (hop : ((exec {} acts).thr i).op = some (.keys t)) :
    let σ := exec {} acts
    let th := σ.thr i
    ∃ W, Spec.getKeys (pureAt σ th.witAt) t = .keys W ∧ th.invAt ≤ th.witAt ∧ th.witAt ≤ σ.lin.length ∧ ∀ k ∈ ks, k ∈ W := by
  intro σ th
  obtain ⟨W, hw, hsub⟩ := (at_ret acts hret).2 ks rfl
  obtain ⟨a, b, c⟩ := ((reachable_inv acts).thr i).wit (.keys W) hw
  exact ⟨W, (((witSem_read hop rfl).mp c).trans (specAt_getKeys_pure (reachable_inv acts) _ t)).symm, a, b, hsub⟩

/-- **No deadlock.**  The only blocking primitive of the model is the horizon mutex.  In every
    reachable state a thread that is inside an operation can take a step, or the holder of the
    horizon mutex can (it is at `beginUnlock`, `CInv.lock`: that step releases the mutex). -/
theorem C06_progress (acts : List Act) (i : Nat) (hbusy : ((exec {} acts).thr i).pc ≠ .idle) :
    (Conc.step (exec {} acts) i).isSome = true ∨
    ∃ j, (exec {} acts).hzLock = some j ∧ (Conc.step (exec {} acts) j).isSome = true :=
  progress (reachable_inv acts) i hbusy

/-- The schedule of `C06_getkeys_not_atomic`.  Thread 0 writes "k"; thread 1 calls GetKeys and looks the lists up;
    thread 2 overwrites "k"; thread 3 runs a collector pass that reclaims the version thread 1 found; thread 1 then
    misses its content record.  Nobody deletes "k". -/
def getKeysWitness : List Act :=
  [.call 0 (.set 0 "k" 1), .run 0, .run 0, .run 0, .run 0,
   .call 1 (.keys 0), .run 1, .run 1, .run 1,
   .call 2 (.set 0 "k" 2), .run 2, .run 2, .run 2, .run 2,
   .call 3 .gc, .run 3, .run 3, .run 3, .run 3, .run 3,
   .run 1, .run 1]

/-- **GetKeys is not atomic** (the open known finding `C06-getkeys-reclaim-window`, as a theorem about the
    model).  After the schedule `getKeysWitness` thread 1's GetKeys is about to return the empty list, although
    its ghost witness — the atomic answer at its linearization point — is ["k"], and "k" reads 2 in the final
    state. -/
theorem C06_getkeys_not_atomic :
    ((exec {} getKeysWitness).thr 1).pc = .ret (.keys []) ∧
    ((exec {} getKeysWitness).thr 1).wit = some (.keys ["k"]) ∧
    (exec {} getKeysWitness).sys.get 0 "k" = .val 2 := by
  decide

/-- non-vacuity: a reader's lookup is overtaken by an overwrite and a collector pass; the reader
    misses the content, looks again and returns the new value, its witness taken anew at the end of
    the log -/
example :
    let acts : List Act :=
      [.call 0 (.set 0 "k" 1), .run 0, .run 0, .run 0, .run 0,
       .call 1 (.get 0 "k"), .run 1, .run 1, .run 1,          -- registry, own list, main list: version 1 found
       .call 2 (.set 0 "k" 2), .run 2, .run 2, .run 2, .run 2,
       .call 3 .gc, .run 3, .run 3, .run 3, .run 3, .run 3,   -- version 1 collected, its content deleted
       .run 1, .run 1, .run 1, .run 1]                         -- content missing → look again → version 2
    -- the log: set, set, the collector's entry, the counter after its horizon step
    ((exec {} acts).thr 1).pc = .ret (.val 2) ∧ ((exec {} acts).thr 1).witAt = 4 ∧ (exec {} acts).lin.length = 4 := by
  decide

/-- The schedule of `C06_commit_window_witness` up to the window: transaction 1 — a snapshot that began while
    version 1 of "k" was the committed one, since overwritten — has executed the first step of its Commit
    (`txRepo.Delete`: out of the registry) and not yet `UpdateTx`. -/
def commitWindow : List Act :=
  [.call 0 (.set 0 "k" 1), .run 0, .run 0, .run 0, .run 0,
   .call 1 (.begin 1 .ser), .run 1, .run 1, .run 1,
   .call 0 (.set 0 "k" 2), .run 0, .run 0, .run 0, .run 0,
   .call 1 (.commit 1), .run 1]

/-- **The window inside Commit** (non-vacuity of the `closing` part of the model).  After `commitWindow`
    transaction 1 is in `closing` and "k" has two versions.  A collector pass run now — it finds no transaction
    registered and draws a fresh number, logged after its own entry as the counter advance `.tick 4` — leaves
    one version of "k", the counter at 4 and transaction 1 in `closing`.  One more step of thread 1 (`UpdateTx`)
    and its Commit is about to return nil, with `closing` and the registry empty.  (That every state on the way
    satisfies the invariant and every answer is the specification's is not part of this statement: it is
    `reachable_inv` and `C06_linearizable`, which hold of every schedule.) -/
theorem C06_commit_window_witness :
    (exec {} commitWindow).closing = [1] ∧ ((exec {} commitWindow).sys.main "k").length = 2 ∧
    (let σ := exec {} (commitWindow ++ [.call 2 .gc, .run 2, .run 2, .run 2, .run 2, .run 2])
     σ.closing = [1] ∧ (σ.sys.main "k").length = 1 ∧ σ.sys.counter = 4 ∧
     σ.lin.map (·.2.1) = [.op (.set 0 "k" 1), .op (.begin 1 .ser), .op (.set 0 "k" 2), .op .gc, .tick 4]) ∧
    (let σ := exec {} (commitWindow ++ [.call 2 .gc, .run 2, .run 2, .run 2, .run 2, .run 2, .run 1])
     σ.closing = [] ∧ (σ.thr 1).pc = .ret .ok ∧ σ.sys.reg = []) := by
  decide

end FsDb.C06
