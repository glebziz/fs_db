import FsDb.Proofs.Refine
import FsDb.Proofs.SpecInv
import FsDb.Proofs.SortKeys
/-!
# C01 — Key-value round trip: what was stored is exactly what is read

For histories of autocommit operations the specification, and with it the concrete model, behaves like the
simplest possible key-value map, `KV` (`C01_map_spec`, `C01_map_concrete`); the clauses of the property are then
stated on that map.  Left out (`Op.auto`): transactions (Begin/Commit/Rollback and every operation through one),
Close/Open and the storage walk.
-/
namespace FsDb.C01
open FsDb Spec

/-- the simplest possible specification: a map, plus the list of keys ever written -/
structure KV where
  m   : Key → Option Nat := fun _ => none
  dom : List Key := []

def KV.addDom (s : KV) (k : Key) : KV := if k ∈ s.dom then s else { s with dom := s.dom ++ [k] }

def KV.step (s : KV) : Op → KV × Out
  | .set _ k c => if k = "" then (s, .err .emptyKey)
                  else (({ s with m := fun k' => if k' = k then some c else s.m k' } : KV).addDom k, .ok)
  | .del _ k => (({ s with m := fun k' => if k' = k then none else s.m k' } : KV).addDom k, .ok)
  | .get _ k => (s, match s.m k with | some c => .val c | none => .err .notFound)
  | .keys _ => (s, .keys (Sys.sortKeys (s.dom.filter (fun k => (s.m k).isSome))))
  | _ => (s, .ok)

def KV.run (s : KV) : List Op → KV × List Out
  | [] => (s, [])
  | op :: ops => let r := s.step op; let r2 := r.1.run ops; (r2.1, r.2 :: r2.2)

/-- operations issued outside any transaction (plus collection / cleanup at any position) -/
def Op.auto : Op → Bool
  | .set t _ _ | .del t _ | .get t _ | .keys t => t == mainTx
  | .gc | .drain => true
  | _ => false

@[simp] theorem KV.addDom_m (x : KV) (k : Key) : (x.addDom k).m = x.m := by unfold KV.addDom; split <;> rfl

theorem KV.addDom_dom (x : KV) (k : Key) : (x.addDom k).dom = if k ∈ x.dom then x.dom else x.dom ++ [k] := by
  unfold KV.addDom; split <;> rfl

/-- the map holds the committed values; open transactions do not matter, since autocommit operations read and
    write committed values only -/
structure Rel (s : State) (kv : KV) : Prop where
  dom : s.dom = kv.dom
  val : ∀ k, (committed s k).bind (·.val) = kv.m k

theorem Rel.write {s : State} {kv : KV} (h : Rel s kv) (k : Key) (val : Option Nat) :
    Agree Rel (Spec.write s mainTx k val)
      ((({ kv with m := fun k' => if k' = k then val else kv.m k' } : KV).addDom k), .ok) := by
  refine ⟨by rw [write_main], ?_, fun k' => ?_⟩
  · rw [write_main]
    show (Spec.addDom s k).dom = _
    rw [Spec.addDom_dom, KV.addDom_dom, h.dom]
  · rw [KV.addDom_m, committed_write_main]
    show _ = if k' = k then val else kv.m k'
    split
    · rfl
    · exact h.val k'

theorem Rel.step {s : State} {kv : KV} (h : Rel s kv) (op : Op) (hop : Op.auto op = true) :
    Agree Rel (Spec.step s op) (kv.step op) := by
  cases op with
  | set t k c =>
    obtain rfl : t = mainTx := eq_of_beq hop
    rw [show Spec.step s (.set mainTx k c) = _ from set_of_ctx (if_pos rfl) k c, KV.step]
    by_cases hk : k = ""
    · rw [if_pos hk, if_pos hk]; exact ⟨rfl, h⟩
    · rw [if_neg hk, if_neg hk]; exact Rel.write h k (some c)
  | del t k =>
    obtain rfl : t = mainTx := eq_of_beq hop
    exact Rel.write h k none
  | get t k =>
    obtain rfl : t = mainTx := eq_of_beq hop
    refine ⟨?_, h⟩
    show outOf (committed s k) = match kv.m k with | some c => .val c | none => .err .notFound
    rw [← h.val k, outOf_eq]
    rfl
  | keys t =>
    obtain rfl : t = mainTx := eq_of_beq hop
    refine ⟨?_, h⟩
    show Out.keys (Sys.sortKeys (s.dom.filter fun k => hasValue (committed s k))) =
      .keys (Sys.sortKeys (kv.dom.filter fun k => (kv.m k).isSome))
    simp only [h.dom, hasValue_eq, h.val]
  | gc =>
    refine ⟨rfl, ?_⟩
    rw [gcStep_eq]
    exact ⟨h.dom, h.val⟩
  | drain => exact ⟨rfl, h⟩
  | _ => cases hop

theorem Rel.run {s : State} {kv : KV} (h : Rel s kv) (ops : List Op) (hops : ∀ op ∈ ops, Op.auto op = true) :
    (Spec.run s ops).2 = (kv.run ops).2 := by
  induction ops generalizing s kv with
  | nil => rfl
  | cons op ops ih =>
    obtain ⟨hop, hrest⟩ := List.forall_mem_cons.mp hops
    obtain ⟨ho, hr⟩ := Rel.step h op hop
    simp only [Spec.run, KV.run]
    rw [ho, ih hr hrest]

/-- For every history of autocommit Set/Delete/Get/GetKeys (with collection and cleanup anywhere)
    the specification answers exactly like a plain map. -/
theorem C01_map_spec (ops : List Op) (hops : ∀ op ∈ ops, Op.auto op = true) :
    (Spec.run {} ops).2 = (KV.run {} ops).2 :=
  Rel.run ⟨rfl, fun _ => rfl⟩ ops hops

theorem auto_core {op : Op} (h : Op.auto op = true) : op.core = true := by
  cases op with
  | reopen _ | tree => cases h
  | _ => rfl

/-- For every history of autocommit Set/Delete/Get/GetKeys (with collection and cleanup anywhere) the concrete
    model (version lists, Badger records, content files, collector) answers exactly like a plain map. -/
theorem C01_map_concrete (ops : List Op) (hops : ∀ op ∈ ops, Op.auto op = true) :
    (({} : Sys).run ops).2 = (KV.run {} ops).2 := by
  rw [Refine.run_init ops fun op ho => auto_core (hops op ho), C01_map_spec ops hops]

/-! The clauses of the statement, on the map: -/

/-- after a Set of a non-empty key, Get returns exactly the stored content -/
theorem C01_get_after_set (s : KV) (k : Key) (c : Nat) (hk : k ≠ "") :
    ((s.step (.set 0 k c)).1.step (.get 0 k)).2 = .val c := by
  simp [KV.step, hk]
/-- a Set or a Delete of another key does not change what Get answers for `k` -/
theorem C01_other_key (s : KV) (k k' : Key) (c : Nat) (hne : k' ≠ k) :
    ((s.step (.set 0 k' c)).1.step (.get 0 k)).2 = (s.step (.get 0 k)).2 ∧
    ((s.step (.del 0 k')).1.step (.get 0 k)).2 = (s.step (.get 0 k)).2 := by
  have hne' : k ≠ k' := fun e => hne e.symm
  constructor
  · by_cases hk : k' = ""
    · simp [KV.step, hk]
    · simp [KV.step, hk, hne']
  · simp [KV.step, hne']
/-- after Delete, Get fails with ErrNotFound -/
theorem C01_get_after_del (s : KV) (k : Key) : ((s.step (.del 0 k)).1.step (.get 0 k)).2 = .err .notFound := by
  simp [KV.step]
/-- a Set with an empty key fails with ErrEmptyKey and changes nothing -/
theorem C01_empty_key (s : KV) (c : Nat) : s.step (.set 0 "" c) = (s, .err .emptyKey) := by simp [KV.step]
/-- in the empty map a Get (of the key "k") fails with ErrNotFound and changes nothing -/
theorem C01_missing : (({} : KV).step (.get 0 "k")) = ({}, .err .notFound) := rfl
/-- GetKeys returns, sorted and without duplicates, exactly the keys for which Get succeeds
    (the two hypotheses on the key list are assumed here; for the states a history reaches they follow
    from `Rel` and `SInv`, which this file does not show) -/
theorem C01_keys (s : KV) (hnd : s.dom.Nodup) (hdom : ∀ k, (s.m k).isSome → k ∈ s.dom) (ks : List Key)
    (h : (s.step (.keys 0)).2 = .keys ks) :
    (∀ k, k ∈ ks ↔ ∃ c, (s.step (.get 0 k)).2 = .val c) ∧ ks.Pairwise (· ≤ ·) ∧ ks.Nodup := by
  simp only [KV.step, Out.keys.injEq] at h
  subst h
  refine ⟨?_, sorted_sortKeys _, nodup_sortKeys _ (List.Nodup.sublist List.filter_sublist hnd)⟩
  intro k
  rw [mem_sortKeys, List.mem_filter]
  simp only [KV.step]
  cases hm : s.m k with
  | none => simp
  | some c => simp [hdom k (by simp [hm])]

example : (KV.run {} [.set 0 "a" 1, .set 0 "" 2, .get 0 "a", .del 0 "a", .get 0 "a", .set 0 "b" 3, .keys 0]).2
    = [.ok, .err .emptyKey, .val 1, .ok, .err .notFound, .ok, .keys ["b"]] := rfl

end FsDb.C01
