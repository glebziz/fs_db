import FsDb.Properties.C05
import FsDb.Proofs.Crash
import FsDb.Model.Persist
/-!
# C04 — A crash at any point loses nothing acknowledged, exposes nothing uncommitted

What is a theorem here and what is enumeration:

* the *meaning* of "the state after a crash" is fixed by the specification: `reopen` in a fresh
  process after the acknowledged operations (optionally plus the operation in flight): the committed
  history is kept, every open transaction is gone (`C04_recovered_state`); a second reopen changes
  nothing (`C04_reopen_idempotent`);
* on the concrete model `crashPoints c op` (`Proofs/Crash.lean`) lists the states between the
  mutations by which `op` changes the persistent store; `C04_crash_cut` speaks of every reachable
  state, every operation and EVERY cut, `C04_crash_in_recovery` of a cut in the recovery itself;
* that the real system's mutations come in the modelled order (content file, fileContent record,
  version record; one Badger transaction per commit; removal in the same order) is tied by the
  skeleton texts, by the per-content-id lifecycle check of the observed mutation traces
  (`Persist.ok`), and by exhaustive crash-point enumeration on the real code (SIGKILL before every
  mutation of every workload; thorough tier: also before every mutation of the recovery), with the
  allowed states computed by this specification through the driver.  Badger's atomic, kill-durable
  transaction and the prefix semantics of file writes are trusted.
-/
namespace FsDb.C04
open FsDb Spec

/-- the recovered state: committed history unchanged, no transaction open — so no write of a
    transaction that had not committed is visible, and every committed write is -/
theorem C04_recovered_state (s : State) (k : Key) :
    (Spec.reopen s true).1.hist k = s.hist k ∧ (Spec.reopen s true).1.open_ = [] ∧
    Spec.get (Spec.reopen s true).1 mainTx k = Spec.get s mainTx k := by
  refine ⟨rfl, rfl, (C05.C05_reopen_reads s true k).1⟩

/-- reopening a second time (or crashing during recovery and recovering again) changes nothing that
    can be read -/
theorem C04_reopen_idempotent (s : State) (k : Key) :
    (Spec.reopen (Spec.reopen s true).1 true).1.hist k = (Spec.reopen s true).1.hist k ∧
    (Spec.reopen (Spec.reopen s true).1 true).1.open_ = (Spec.reopen s true).1.open_ ∧
    Spec.getKeys (Spec.reopen (Spec.reopen s true).1 true).1 mainTx = Spec.getKeys (Spec.reopen s true).1 mainTx := by
  refine ⟨rfl, rfl, (C05.C05_reopen_reads _ true k).2⟩

/-- an operation in flight is all-or-nothing in the specification: a commit either appends one
    version to every key it wrote or changes no history at all -/
theorem C04_commit_all_or_nothing (s : State) (t : Nat) :
    ((Spec.commit s t).1.hist = s.hist) ∨
    (∃ tx, find s t = some tx ∧ ∀ k, (Spec.commit s t).1.hist k =
        match tx.own k with
        | some v => if k ∈ writtenS s.dom tx.own then s.hist k ++ [⟨s.clock + 1, v.val⟩] else s.hist k
        | none => s.hist k) := by
  rcases Spec.commit_outcomes s t with ⟨_, e⟩ | ⟨tx, _, hf, e | e | e⟩ <;> rw [e]
  · exact Or.inl rfl
  · exact Or.inl rfl
  · exact Or.inl rfl
  · exact Or.inr ⟨tx, hf, fun _ => rfl⟩

/-- **Crash at any cut.**  `c` any concrete state related to a specification state `s` with its records in order
    (`R`, `RecInv`: every reachable state, `C04_reachable`), `op` any operation but the storage walk, `p` any of
    its crash points.  There is ONE `s'` — `s`, the state after the acknowledged operations, or `s` after the
    whole of `op` — such that the store recovered from `p` in a fresh process answers an autocommit Get of every
    key, and GetKeys, as the specification recovered from `s'` does.  That recovered specification state has no
    open transaction (a fact about `Spec.reopen`, not about `p`: with the equalities before, nothing of an
    uncommitted transaction is read).  A second recovery answers every Get as the first (GetKeys: not stated). -/
theorem C04_crash_cut {c : Sys} {s : State} (h : R c s) (ri : RecInv c) (op : Op) (hop : op.total = true)
    (p : Sys) (hp : p ∈ crashPoints c op) :
    ∃ s', (s' = s ∨ s' = (Spec.step s op).1) ∧
      (∀ k, (p.reopen true).1.get mainTx k = Spec.get (Spec.reopen s' true).1 mainTx k) ∧
      (p.reopen true).1.getKeys mainTx = Spec.getKeys (Spec.reopen s' true).1 mainTx ∧
      (Spec.reopen s' true).1.open_ = [] ∧
      (∀ k, ((p.reopen true).1.reopen true).1.get mainTx k = (p.reopen true).1.get mainTx k) := by
  obtain ⟨hr, hri⟩ := crashPoints_ok h ri op hop p hp
  obtain ⟨s', hs', hr⟩ : ∃ s', (s' = s ∨ s' = (Spec.step s op).1) ∧ R p s' :=
    hr.elim (fun hr => ⟨s, .inl rfl, hr⟩) fun hr => ⟨_, .inr rfl, hr⟩
  have h1 := hr.reopen hri true
  exact ⟨s', hs', fun k => h1.get_eq mainTx k, h1.getKeys_eq mainTx, rfl,
    fun k => (C05.C05_durable_concrete h1 (hri.reopen hr.inv true) true k).1⟩

/-- a crash during recovery: recovery's own persistent mutations are the deletions it hands to the
    worker pool; cutting them anywhere and recovering again reads the same -/
theorem C04_crash_in_recovery {c : Sys} {s : State} (h : R c s) (ri : RecInv c)
    (p : Sys) (hp : p ∈ crashPoints (c.reopen true).1 .drain) (k : Key) :
    (p.reopen true).1.get mainTx k = Spec.get (Spec.reopen s true).1 mainTx k := by
  obtain ⟨s', hs', hget, _⟩ := C04_crash_cut (h.reopen ri true) (ri.reopen h.inv true) .drain rfl p hp
  rw [hget k]
  -- the specification does nothing on `drain`: the two alternatives are the same state
  rcases hs' with rfl | rfl <;> exact (C05.C05_reopen_reads _ true k).1

/-- every state reached by any history (reopenings included) qualifies -/
theorem C04_reachable (ops : List Op) (hops : ∀ op ∈ ops, op.total = true) :
    R (({} : Sys).run ops).1 (Spec.run {} ops).1 ∧ RecInv (({} : Sys).run ops).1 :=
  (Refine.run_all R.init RecInv.init ops hops).2

/-- the crash points of a Set are one mutation apart: first the fileContent record (the content
    file is complete by then), then the version record -/
theorem C04_set_points (c : Sys) (t : Nat) (k : Key) (n : Nat) (hg : ¬ ((c.regGet t).isNone ∨ k = "")) :
    ∃ p1 p2, crashPoints c (.set t k n) = [c, p1, p2] ∧
      p1.recs = c.recs ∧ p1.cfs = c.cfs ++ [(c.nextCid, n)] ∧
      p2.cfs = p1.cfs ∧ p2.recs = c.recs ++ [⟨k, t, c.nextCid, c.counter + 1, some n⟩] := by
  have e : (c.set t k n).1 = afterStore c [(c.nextCid, n)] t k (some n) := by
    rw [set_eq, if_neg fun h => hg (.inl h), if_neg fun h => hg (.inr h)]
  exact ⟨preStore c [(c.nextCid, n)], (c.set t k n).1, by simp only [crashPoints, if_neg hg], rfl, rfl,
    e ▸ after_cfs .., e ▸ after_recs ..⟩

/-- the crash points of a deletion are one mutation apart: content + fileContent record, then the
    version record -/
theorem C04_delete_points (s : Sys) (v : Ver) (n : Nat) (hc : s.hasContent v.cid = some n) (vs : List Ver) :
    delPoints s (v :: vs) = s :: delCf s v :: delPoints (delRec (delCf s v) v) vs ∧
    (delCf s v).recs = s.recs ∧ (delRec (delCf s v) v).cfs = (delCf s v).cfs := by
  exact ⟨by rw [delPoints, hc], rfl, rfl⟩

/-- the modelled order per content id: the two complete lifecycles are accepted, every prefix of
    them too (a crash stops a lifecycle anywhere), and the orders that would expose a partial
    content or lose a live one are not -/
example : Persist.ok [.file, .cf, .vrec, .vrec, .rm, .delcf, .delrec] = true := by decide
example : Persist.ok [.vrec, .vrec] = true := by decide
example : Persist.ok [.file, .cf] = true := by decide
example : Persist.ok [.file, .vrec] = false := by decide      -- version record before the fileContent record
example : Persist.ok [.cf] = false := by decide              -- fileContent record before the file is complete
example : Persist.ok [.file, .cf, .vrec, .delrec] = false := by decide
example : Persist.ok [.file, .cf, .vrec, .delcf] = false := by decide

/-- non-vacuity of the cut theorem: a history, a Set in flight, all three crash points -/
example : (crashPoints ((({} : Sys).run [.set 0 "a" 1, .begin 1 .rc, .set 1 "b" 2]).1) (.set 0 "a" 3)).length = 3 := by
  decide

end FsDb.C04
