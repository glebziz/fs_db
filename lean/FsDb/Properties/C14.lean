import FsDb.Proofs.ConcCfs
/-!
# C14 — Space of unreachable contents is reclaimed; the disk holds only live data

The safety half (nothing reachable loses its content) and the reclaim half: the content-record
invariant `CfsInv` (`Proofs/CfsInv.lean`) holds through every operation, and at quiescence -- no
transaction open, worker pool drained, one collector pass -- the content records (one content file
each) are EXACTLY the committed values of the keys that have one, also after `Close`+`Open` and a
drained pool.  The correspondence run checks the same equality on the real storage roots (`tree`).
-/
namespace FsDb.C14
open FsDb Spec

/-- In any state related to a specification state (`R`: every reachable state, `C14_invariants_reachable`), the
    deletion jobs handed to the pool (rollback, failed commit, superseded-in-transaction, collector) only name
    versions whose content id no version still linked in the all-store carries. -/
theorem C14_jobs_are_dead {c : Sys} {s : State} (h : R c s) :
    ∀ job ∈ c.pending, ∀ v ∈ job, ∀ k, ∀ w ∈ c.all k, w.cid ≠ v.cid := h.inv.pendDead

/-- In any state related to a specification state (`R`), every version linked in the all-store — everything a read
    can reach — has its content record, with the content it was written with (none for a tombstone). -/
theorem C14_live_has_content {c : Sys} {s : State} (h : R c s) (k : Key) (v : Ver) (hv : v ∈ c.all k) :
    c.hasContent v.cid = v.val := h.inv.stor k v hv

theorem C14_drain_empties (c : Sys) : (c.drain).1.pending = [] := drain_pending c

/-- Under `Inv` (every key a transaction wrote is in `dom`) the list `c.dom.flatMap st` holds exactly the versions
    of the store `st` of transaction `t`.  It is the list `Sys.rollback` hands to the pool as one deletion job
    (read off `Model/Sys`, not stated here): with that, a Rollback hands *every* version of the transaction to the
    cleaner. -/
theorem C14_rollback_schedules_all {c : Sys} (i : Inv c) {t : Nat} {st : Store} (hst : c.txs t = some st) :
    ∀ v, v ∈ c.dom.flatMap (fun k => st k) ↔ ∃ k, v ∈ st k := isStoreOf_flatMap i hst

/-- Under `Inv` the list `cLasts ++ cOlds` — the last version of every key the transaction wrote, and the earlier
    ones — holds exactly the versions of the store `st` of transaction `t`.  `Sys.updateTx` (read off `Model/Sys`,
    not stated here) hands `olds ++ lasts` to the pool when the Commit fails, and `olds` when it succeeds,
    publishing `lasts`: with that, a failed Commit hands over every version, a successful one everything it does
    not publish. -/
theorem C14_commit_schedules_rest {c : Sys} (i : Inv c) {t : Nat} {st : Store} (hst : c.txs t = some st) :
    ∀ v, v ∈ cLasts c st ++ cOlds c st ↔ ∃ k, v ∈ st k := isStoreOf_commit i hst

/-- the collector hands over exactly what it unlinks from the main store -/
theorem C14_gc_schedules_collected {c : Sys} (i : Inv c) (v : Ver) :
    v ∈ gcDels c ↔ ∃ k, v ∈ (collect (c.main k) (gcHz c)).1 := mem_delsAt i (gcHz c) v

/-- with no transaction open the collector keeps exactly one version per key: the newest -/
theorem C14_gc_keeps_only_latest (c : Sys) (hreg : c.reg = []) (i : Inv c) (k : Key) :
    (collect (c.main k) (gcHz c)).2 = (Sys.latest (c.main k)).toList := by
  rcases gcHz_cases c with ⟨_, htx, _⟩ | ⟨_, hz⟩
  · exact nomatch hreg ▸ htx
  rw [hz]
  exact collect_snd_of_le fun v hv =>
    have b := i.bounds k v (i.main_sub_all hv)
    ⟨Nat.ne_of_gt b.1, Nat.le_succ_of_le b.2.1⟩

/-- the invariants hold in every state reached by any history (reopenings and storage walks
    included) -/
theorem C14_invariants_reachable (ops : List Op) (hops : ∀ op ∈ ops, op.total = true ∨ op = .tree) :
    R (({} : Sys).run ops).1 (Spec.run {} ops).1 ∧ RecInv (({} : Sys).run ops).1 ∧ CfsInv (({} : Sys).run ops).1 :=
  CfsInv.run R.init RecInv.init CfsInv.init ops hops

/-- every content record is accounted for: it belongs to a version some reader may still reach, or
    to a deletion job already handed to the worker pool -- in every reachable state -/
theorem C14_no_orphan_content {c : Sys} (ci : CfsInv c) (p : Nat × Nat) (hp : p ∈ c.cfs) :
    (∃ k, ∃ v ∈ c.all k, v.cid = p.1) ∨ (∃ job ∈ c.pending, ∃ v ∈ job, v.cid = p.1) := ci.owned p hp

/-- **Quiescence.**  From any reachable state with no transaction open: drain the worker pool, run
    the collector once; then the storage holds exactly the committed value of every key that has
    one -- nothing superseded, rolled back, conflicted or deleted is left. -/
theorem C14_quiescent_storage {c : Sys} {s : State} (h : R c s) (ci : CfsInv c) (hreg : c.reg = []) :
    ((c.drain).1.gc).1.tree = (Spec.step s .tree).2 := by
  have h1 := (step_drain h).2
  have hreg1 : (c.drain).1.reg = [] := (drain_reg c).trans hreg
  rw [quiescent_tree (step_gc h1).2 ci.drain.gc ((gc_reg _).trans hreg1) ((gc_pending _).trans (drain_pending c))
    fun k => by rw [congrFun (gc_main _) k, C14_gc_keeps_only_latest _ hreg1 h1.inv k]; exact toList_latest _]
  -- the specification's storage walk does not look at the clock, all the collector may change
  rw [gcStep_eq]; rfl

/-- after `Close`+`Open` and a drained pool the storage holds exactly the committed values
    (recovery reclaims everything that was left behind) -/
theorem C14_after_reopen {c : Sys} {s : State} (h : R c s) (ri : RecInv c) (ci : CfsInv c) (f : Bool) :
    ((c.reopen f).1.drain).1.tree = (Spec.step s .tree).2 := by
  -- the final `rfl`: the specification's storage walk reads `hist` and `dom` only, which `Spec.reopen` keeps
  exact (quiescent_tree (step_drain (h.reopen ri f)).2 (ci.reopen h.inv f).drain ((drain_reg _).trans (reopen_reg c f)) (drain_pending _)
    fun k => by rw [drain_main, reopen_main h.inv ri f k]; exact toList_latest _).trans rfl

/-- non-vacuity: superseded versions, a rolled-back and a conflicting transaction, a tombstone;
    after drain + gc only the committed values remain, in the model's storage and in the
    specification (unsorted lists; the walk sorts them) -/
example :
    ((({} : Sys).run [.set 0 "a" 1, .set 0 "a" 2, .begin 1 .ser, .set 1 "b" 3, .set 0 "b" 4, .commit 1, .begin 2 .rc, .set 2 "c" 5,
      .rollback 2, .set 0 "d" 6, .del 0 "d", .drain, .gc]).1.cfs.map (·.2)) = [2, 4] := rfl
example :
    let s := (Spec.run {} [.set 0 "a" 1, .set 0 "a" 2, .begin 1 .ser, .set 1 "b" 3, .set 0 "b" 4, .commit 1, .begin 2 .rc, .set 2 "c" 5,
      .rollback 2, .set 0 "d" 6, .del 0 "d", .drain, .gc]).1
    s.dom.filterMap (fun k => (committed s k).bind (·.val)) = [2, 4] := rfl

open FsDb.Conc in
/-- **No orphan content, under every schedule.**  In every state the small-step model can reach —
    any number of goroutines writing, committing, rolling back, collecting and deleting, step by
    step — every content record (content file) belongs to a version that is still linked, to a
    queued deletion job, or to a job a goroutine is executing right now; no content id has two
    records; every content record has its version record. -/
theorem C14_concurrent_invariant (acts : List Conc.Act) : CfsInv (Conc.withBusy (Conc.exec {} acts)) :=
  (Conc.CC.reachable acts).cfs

open FsDb.Conc in
/-- **Quiescence after any concurrent history.**  Whatever schedule led there: once no job is in
    execution, no transaction is inside Commit / Rollback and none is registered, `drain; gc` leaves
    in the storage exactly the committed value of every key that has one — nothing a concurrent
    history superseded, rolled back, refused or deleted is left behind. -/
theorem C14_concurrent_quiescent (acts : List Conc.Act)
    (hbusy : (Conc.exec {} acts).busy = []) (hcl : (Conc.exec {} acts).closing = [])
    (hreg : (Conc.exec {} acts).sys.reg = []) :
    (((Conc.exec {} acts).sys.drain).1.gc).1.tree = (Spec.step (Conc.specOf (Conc.exec {} acts)) .tree).2 := by
  -- nothing in execution: the state with the jobs in execution put back is the state itself
  have hw : Conc.withBusy (Conc.exec {} acts) = (Conc.exec {} acts).sys := by
    unfold Conc.withBusy Conc.withB; rw [hbusy]; rfl
  have hR := (Conc.reachable_inv acts).rel
  have hC := (Conc.CC.reachable acts).cfs
  rw [hcl, hw] at hR
  rw [hw] at hC
  exact C14_quiescent_storage hR hC hreg

/-- non-vacuity: a schedule with an autocommit overwrite and a collector pass inside the window of a
    Commit ends in a state that meets the hypotheses -/
example :
    let σ := Conc.exec {}
      [.call 0 (.set 0 "k" 1), .run 0, .run 0, .run 0, .run 0,
       .call 1 (.begin 1 .ser), .run 1, .run 1, .run 1,
       .call 0 (.set 0 "k" 2), .run 0, .run 0, .run 0, .run 0,
       .call 1 (.commit 1), .run 1,
       .call 2 .gc, .run 2, .run 2, .run 2, .run 2, .run 2, .run 1, .run 1]
    σ.busy = [] ∧ σ.closing = [] ∧ σ.sys.reg = [] := by decide

end FsDb.C14
