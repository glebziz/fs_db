import FsDb.Proofs.Reopen
import FsDb.Proofs.SpecInv
import FsDb.Proofs.MultiDb
/-!
# C05 — Reopening preserves the committed state and later writes keep winning

On the specification a reopen (in the same or in a fresh process) keeps the committed history, drops
the open transactions and keeps the invariant, so every later write gets a stamp above everything
committed.  On the concrete model the record invariant `RecInv` holds through every operation, so
`Load` keeps exactly the newest committed version of every key, `Close`+`Open` refines the
specification's `reopen`, and the refinement theorem extends to histories with reopenings at any
positions.  Several databases in one process share only the counter (`C05_multi_db`); `Close`/`Open`
inside a multi-database run is not proved but exercised, by the multi-database / multi-process
correspondence run.
-/
namespace FsDb.C05
open FsDb Spec

/-- a reopen keeps the committed history of every key and forgets the open transactions -/
theorem C05_reopen_spec (s : State) (f : Bool) :
    (Spec.reopen s f).1.hist = s.hist ∧ (Spec.reopen s f).1.dom = s.dom ∧ (Spec.reopen s f).1.open_ = [] :=
  ⟨rfl, rfl, rfl⟩

/-- an autocommit Get of any key and an autocommit GetKeys answer the same before and after a reopen (in the
    same process or a fresh one) -/
theorem C05_reopen_reads (s : State) (f : Bool) (k : Key) :
    Spec.get (Spec.reopen s f).1 mainTx k = Spec.get s mainTx k ∧
    Spec.getKeys (Spec.reopen s f).1 mainTx = Spec.getKeys s mainTx :=
  ⟨rfl, rfl⟩

/-- a reopen keeps the specification's invariant `SInv` — of whose clauses `C05_later_write_wins` uses "every
    committed stamp ≤ clock" — also in a fresh process, where the clock restarts at the newest committed stamp -/
theorem C05_reopen_inv (s : State) (hs : SInv s) (f : Bool) : SInv (Spec.reopen s f).1 := hs.step (.reopen f)

/-- a write acknowledged after a reopen supersedes all earlier data: it becomes the committed value
    immediately, with a stamp above every earlier one (hence also after every later reopen, which
    keeps the history) -/
theorem C05_later_write_wins (s : State) (hs : SInv s) (f : Bool) (k : Key) (val : Option Nat) :
    let s1 := (Spec.reopen s f).1
    let s2 := (Spec.write s1 mainTx k val).1
    committed s2 k = some ⟨s1.clock + 1, val⟩ ∧ ∀ v ∈ s.hist k, v.stamp < s1.clock + 1 := by
  intro s1 s2
  exact ⟨(committed_write_main s1 k val k).trans (if_pos rfl),
    fun v hv => Nat.lt_succ_of_le ((C05_reopen_inv s hs f).stampsLe k v hv)⟩

/-- `Load` on the concrete model: the process counter ends at or above the sequence number of every
    version that survives the reopen, whatever its value was before (another database opened
    earlier, or a fresh process) -/
theorem C05_counter_covers (c : Sys) (f : Bool) (k : Key) (v : Ver) (hk : k ∈ c.dom)
    (hv : v ∈ (c.reopen f).1.main k) : v.seq ≤ (c.reopen f).1.counter :=
  reopen_covers c f hk hv

/-- `Load` keeps, for every key, exactly the newest committed version -- in every state reachable
    by any history (reopenings included), whatever superseded, rolled-back or tombstone records are
    still lying in Badger -/
theorem C05_load_keeps_newest {c : Sys} {s : State} (h : R c s) (ri : RecInv c) (f : Bool) (k : Key) :
    (c.reopen f).1.main k = (Sys.latest (c.main k)).toList := reopen_main h.inv ri f k

/-- `Close`+`Open` refines the specification's `reopen`; the record invariant survives it -/
theorem C05_reopen_refines {c : Sys} {s : State} (h : R c s) (ri : RecInv c) (f : Bool) :
    R (c.reopen f).1 (Spec.reopen s f).1 ∧ RecInv (c.reopen f).1 :=
  ⟨R.reopen h ri f, RecInv.reopen h.inv ri f⟩

/-- for EVERY history of Begin/Set/Delete/Get/GetKeys/Commit/Rollback/gc/drain with `Close`+`Open`
    at any positions, in the same process or a fresh one, the concrete model (version lists, Badger
    records, `Load`) answers what the specification answers -/
theorem C05_refinement_with_reopen (ops : List Op) (hops : ∀ op ∈ ops, op.total = true) :
    (({} : Sys).run ops).2 = (Spec.run {} ops).2 := (Refine.run_all R.init RecInv.init ops hops).1

/-- Durability on the concrete model: in a state related to a specification state with its records in order
    (`R`, `RecInv`: every state a history reaches, `Refine.run_all`), an autocommit Get of any key and an
    autocommit GetKeys answer the same immediately before `Close` and immediately after `Open` (same process
    or a fresh one). -/
theorem C05_durable_concrete {c : Sys} {s : State} (h : R c s) (ri : RecInv c) (f : Bool) (k : Key) :
    (c.reopen f).1.get mainTx k = c.get mainTx k ∧ (c.reopen f).1.getKeys mainTx = c.getKeys mainTx :=
  reads_congr h (R.reopen h ri f) mainTx k (C05_reopen_reads s f k).1 (C05_reopen_reads s f k).2

/-- non-vacuity: a history with a conflict, a rollback, tombstones, collector passes and two
    reopenings (one in a fresh process) -/
example :
    (Spec.run {} [.set 0 "a" 1, .begin 1 .ser, .set 1 "a" 2, .set 0 "a" 3, .del 0 "b", .commit 1, .gc, .reopen false,
      .get 0 "a", .set 0 "a" 4, .begin 2 .rc, .set 2 "b" 5, .reopen true, .get 0 "a", .get 0 "b", .set 0 "b" 6, .reopen true,
      .get 0 "b", .keys 0]).2
    = [.ok, .ok, .ok, .ok, .ok, .err .txSerialization, .ok, .ok, .val 3, .ok, .ok, .ok, .ok, .val 4, .err .notFound,
       .ok, .ok, .val 6, .keys ["a", "b"]] := rfl

/-- the pin's counter rule: `Set` only if the counter is still zero -/
def casCounter (counter0 maxSeq : Nat) : Nat := if counter0 = 0 then maxSeq else counter0

/-- Arithmetic on literals that records the pin's counter rule; no model is involved.  Counter 1 (another
    database was opened first) when database B, whose newest version carries 20, is loaded: `casCounter` leaves
    it at 1, so the next number, 2, is below 20, whereas `max` gives 21.  What that means in fs_db — the write
    numbered 2 is read back until the next reopen, then the version numbered 20 wins: an acknowledged write is
    lost — is not stated here; the check replays it with two OS processes (first history of the C05 run). -/
theorem C05_cas_witness : casCounter 1 20 + 1 < 20 ∧ max 1 20 + 1 > 20 := by decide

/-- **Several databases in one process** share only the sequence counter.  For EVERY interleaved
    history of operations on any number of databases (`Proc.run`), every database answers exactly
    what the specification answers to ITS OWN operations alone: the others are invisible.
    (Operations: everything but Close/Open, which `C05_refinement_with_reopen` covers for one
    database.) -/
theorem C05_multi_db (h : List (Nat × Op)) (hp : ∀ x ∈ h, plainOp x.2 = true) (d : Nat) :
    ((({} : Proc).run h).2.filter (·.1 = d)).map (·.2) = (Spec.run {} ((h.filter (·.1 = d)).map (·.2))).2 := by
  obtain ⟨es, h1, h2, h3⟩ := run_view d {} h hp
  rw [h3, ← h2]
  exact env_invisible es h1

/-- one database in an environment that raises the counter at arbitrary moments by arbitrary amounts -/
theorem C05_environment_invisible (es : List EOp) (hp : ∀ e ∈ es, e.plain = true) :
    (({} : Sys).erun es).2 = (Spec.run {} (opsOf es)).2 :=
  env_invisible es hp

/-- non-vacuity: two databases interleaved; database 1's writes push the counter between database
    0's Begin, its transactional write and its reads, and database 0 still answers as if it were alone -/
example :
    (({} : Proc).run [(0, .set 0 "k" 1), (1, .set 0 "k" 7), (0, .begin 1 .rc), (1, .set 0 "k" 8), (1, .set 0 "j" 9),
      (0, .set 1 "k" 2), (0, .get 1 "k"), (1, .get 0 "k"), (0, .get 0 "k"), (0, .commit 1), (0, .get 0 "k")]).2
    = [(0, .ok), (1, .ok), (0, .ok), (1, .ok), (1, .ok), (0, .ok), (0, .val 2), (1, .val 8), (0, .val 1), (0, .ok), (0, .val 2)] := rfl

end FsDb.C05
