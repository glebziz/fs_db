import FsDb.Model.Copy
import FsDb.Properties.C11
import FsDb.Proofs.Refine
/-!
# C10 — A write that fails or is aborted leaves no trace; no-space continuation is exact

The continuation algebra of `Model/Copy`, then `C10_failed_write_no_trace` for a `store.Set` that fails
at any of its stages (empty key, no directory, content copy — reader error, cancellation, no space —,
fileContent record, version record).  On the real code the stages are forced by fault injection:
source reader errors and context cancellation at every chunk boundary ±1 through the gRPC client,
reader errors and ENOSPC (part / all-or-nothing) on every subset of 2–3 roots inline.
-/
namespace FsDb.C10
open FsDb.Copy

theorem attempt_fits {replayWhole : Bool} {chunk : Nat} {part : Bool} {cap : Nat} {src : List Nat}
    (h : src.length ≤ cap) : attempt replayWhole chunk cap part src = (src, none) := by
  simp only [attempt, accepted, if_pos h, List.take_length]

theorem attempt_full {chunk : Nat} {part : Bool} {cap : Nat} {src : List Nat} (h : ¬ src.length ≤ cap) :
    attempt false chunk cap part src = (src.take (accepted chunk cap part src.length), some src) := by
  simp only [attempt, if_neg h, Bool.false_eq_true, if_false, List.take_append_drop]

/-- With the repaired replay rule every attempt starts from the whole source (`attempt_full`), so the first
    root that can take all of it stores exactly the source. -/
theorem store_false (chunk : Nat) (part : Bool) (src caps : List Nat) :
    store false chunk part src caps =
      if caps.any (fun cap => decide (src.length ≤ cap)) then some src else none := by
  induction caps with
  | nil => rfl
  | cons cap caps ih =>
    unfold store
    by_cases h : src.length ≤ cap
    · rw [attempt_fits h, List.any_cons, decide_eq_true h, Bool.true_or, if_pos rfl]
    · rw [attempt_full h, List.any_cons, decide_eq_false h, Bool.false_or]
      exact ih

/-- **Exact continuation.**  With the repaired replay rule, for every content, every chunk size,
    every list of root capacities tried in turn, partial or all-or-nothing failures: if the write
    succeeds at all, the stored bytes equal the source stream exactly. -/
theorem C10_continuation_exact (chunk : Nat) (part : Bool) (src : List Nat) (caps : List Nat) (file : List Nat)
    (h : store false chunk part src caps = some file) : file = src := by
  rw [store_false] at h
  exact (Option.some.inj (Option.ite_none_right_eq_some.mp h).2).symm

/-- the write succeeds iff one of the roots tried can take the whole content -/
theorem C10_success_iff (chunk : Nat) (part : Bool) (src : List Nat) (caps : List Nat) :
    (store false chunk part src caps).isSome = caps.any (fun cap => decide (src.length ≤ cap)) := by
  rw [store_false]
  cases caps.any _ <;> rfl

/-- the pin's rule (replay the whole failed chunk): a partial write is duplicated.  100 bytes in
    chunks of 32, the first root takes 50: the stored content has 118 bytes.  A test of the model;
    the check replays it on the real code with an injected part ENOSPC. -/
theorem C10_duplicate_witness :
    (store true 32 true (List.range 100) [50, 1000]).map List.length = some 118 ∧
    (store false 32 true (List.range 100) [50, 1000]) = some (List.range 100) :=
  ⟨by decide, (store_false ..).trans (if_pos (by rw [List.length_range]; rfl))⟩

/-- a success is complete for every chunking of the gRPC stream too (C11_chunk_roundtrip) -/
theorem C10_stream_complete (cs : Nat) (hcs : 0 < cs) (ps : List (List Nat)) :
    Wire.readAll (C11.writeAll cs {} ps).close = ps.flatten := (C11.C11_chunk_roundtrip cs hcs ps).1

example : store false 32 false (List.range 100) [50, 70, 1000] = some (List.range 100) :=
  (store_false ..).trans (if_pos (by rw [List.length_range]; rfl))

/-! The second half: a `store.Set` that fails, on the concrete model `Model/Sys`. -/
open FsDb Sys Spec

/-- how far a failing `store.Set` got before the error (`internal/usecase/store/set.go`) -/
inductive FailStage
  | early           -- empty key, `dir.Get`, the content copy: nothing persistent is recorded
                    -- (a partial content file may lie in a storage root under a fresh name)
  | contentRecord   -- `cfRepo.Store` failed: the content file exists under its fresh id, no record
  | versionRecord   -- `fRepo.Store` (`core.Store`) failed: content file + fileContent record exist
                    -- under the fresh id, no version was written or linked
deriving DecidableEq, Repr

/-- the state a failing Set leaves behind; only the last stage leaves something the model can see:
    a content record under an id no version refers to -/
def setFailed (c : Sys) (stage : FailStage) (content : Nat) : Sys :=
  match stage with
  | .early | .contentRecord => c
  | .versionRecord => { c with nextCid := c.nextCid + 1, cfs := c.cfs ++ [(c.nextCid, content)] }

/-- **A failed write leaves no trace.**  Whatever stage the failing `store.Set` reached: the state it leaves
    behind (`setFailed`) is related by `R` to the UNCHANGED specification state. -/
theorem C10_failed_write_no_trace {c : Sys} {s : State} (h : R c s) (stage : FailStage) (content : Nat) :
    R (setFailed c stage content) s := by
  cases stage with
  | early | contentRecord => exact h
  | versionRecord => exact preStore_R h content

/-- After a failed `store.Set` (any stage, from any state related by `R`) every Get and every GetKeys, through any
    transaction or none, answers what it answered before. -/
theorem C10_failed_write_reads {c : Sys} {s : State} (h : R c s) (stage : FailStage) (content : Nat) (t : Nat) (k : Key) :
    (setFailed c stage content).get t k = c.get t k ∧ (setFailed c stage content).getKeys t = c.getKeys t :=
  reads_congr h (C10_failed_write_no_trace h stage content) t k rfl rfl

/-- After a failed `store.Set` every later history of `Op.core` operations (all but `reopen` and the storage walk
    `tree`) answers what the specification answers from the unchanged state `s`. -/
theorem C10_failed_write_later {c : Sys} {s : State} (h : R c s) (stage : FailStage) (content : Nat)
    (ops : List Op) (hops : ∀ op ∈ ops, op.core = true) :
    ((setFailed c stage content).run ops).2 = (Spec.run s ops).2 :=
  (Refine.run (C10_failed_write_no_trace h stage content) ops hops).1

/-- In every state reached by a history `pre` of `Op.core` operations: a later history `post` answers after the
    failed write exactly what it answers had the write never been attempted. -/
theorem C10_failed_write_invisible (pre post : List Op) (hpre : ∀ op ∈ pre, op.core = true)
    (hpost : ∀ op ∈ post, op.core = true) (stage : FailStage) (content : Nat) :
    ((setFailed (({} : Sys).run pre).1 stage content).run post).2 = ((({} : Sys).run pre).1.run post).2 := by
  have hR := (Refine.run R.init pre hpre).2
  rw [C10_failed_write_later hR stage content post hpost, (Refine.run hR post hpost).1]

/-- non-vacuity: a write that failed after its content record was stored; the key keeps its value -/
example : ((setFailed (({} : Sys).run [.set 0 "k" 1]).1 .versionRecord 7).run [.get 0 "k", .keys 0, .set 0 "k" 2, .get 0 "k"]).2
    = [.val 1, .keys ["k"], .ok, .val 2] := rfl

end FsDb.C10
