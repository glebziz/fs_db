import FsDb.Proofs.Refine
import FsDb.Proofs.SpecInv
/-!
# C03 — Commit is all-or-nothing and fails exactly on a write-write conflict

Stated on the specification; `Refine.run_init` (`C02_refinement`) carries the answers to the concrete model,
`C03_concrete` the Commit step from any related pair of states.
-/
namespace FsDb.C03
open FsDb Spec

/-- the committed value of a key (`none`: absent or deleted) -/
def valueOf (s : State) (k : Key) : Option Nat := (committed s k).bind (·.val)

/-- A successful Commit of an open transaction, key by key: the committed value (`valueOf`) of a key the
    transaction wrote becomes the last value it wrote (a deletion: `none`), that of a key it did not write stays
    what it was — in the one step `Spec.commit`.  (Only `valueOf` is spoken of: not `dom`, the clock or the
    other open transactions.) -/
theorem C03_commit_ok (s : State) (hs : SInv s) (t : Nat) (tx : STx) (htm : t ≠ mainTx)
    (hf : find s t = some tx) (hok : (Spec.commit s t).2 = .ok) (k : Key) :
    valueOf (Spec.commit s t).1 k = match tx.own k with
      | some v => v.val
      | none => valueOf s k := by
  have hw := mem_written hs (find_mem hf).1 k
  rcases commit_cases htm hf with ⟨_, e⟩ | ⟨_, ⟨hnil, e⟩ | ⟨_, e⟩⟩ <;> rw [e] at hok ⊢
  · cases hok
  · -- the transaction wrote nothing
    rw [hnil] at hw
    rw [Option.not_isSome_iff_eq_none.mp fun h => nomatch hw.mpr h]
    rfl
  · unfold valueOf
    rw [committed_publish]
    cases ho : tx.own k with
    | none => rfl
    | some v => exact congrArg (Option.bind · _) (if_pos (hw.mpr (ho ▸ rfl)))

/-- Rollback leaves the committed state exactly as it was and discards the transaction. -/
theorem C03_rollback_noop (s : State) (t : Nat) :
    (Spec.rollback s t).1.hist = s.hist ∧ find (Spec.rollback s t).1 t = none :=
  ⟨rfl, find_close_self s t⟩

/-- A failed Commit leaves the committed state exactly as it was and discards all the
    transaction's writes (the transaction is closed: nobody can read them afterwards). -/
theorem C03_failed_commit_noop (s : State) (t : Nat) (hfail : (Spec.commit s t).2 = .err .txSerialization) :
    (Spec.commit s t).1.hist = s.hist ∧ find (Spec.commit s t).1 t = none := by
  -- of the outcomes only the conflict answers with this error, and it leaves `close s t`
  rcases commit_outcomes s t with ⟨_, e⟩ | ⟨tx, _, _, e | e | e⟩ <;> rw [e] at hfail ⊢
  · cases hfail
  · exact C03_rollback_noop s t
  · cases hfail
  · cases hfail

/-- Commit of a RepeatableRead/Serializable transaction fails with ErrTxSerialization if and only
    if some key it wrote has had another value committed since it began. -/
theorem C03_conflict_iff (s : State) (hs : SInv s) (t : Nat) (tx : STx) (htm : t ≠ mainTx)
    (hf : find s t = some tx) (hl : tx.level.snapshot = true) :
    (Spec.commit s t).2 = .err .txSerialization ↔
      ∃ k v, (tx.own k).isSome ∧ committed s k = some v ∧ v.stamp > tx.beginStamp := by
  have hconf : conflictS (Spec.close s t) tx = true ↔
      ∃ k v, (tx.own k).isSome ∧ committed s k = some v ∧ v.stamp > tx.beginStamp := by
    unfold conflictS
    rw [hl, Bool.true_and, List.any_eq_true]
    refine exists_congr fun k => ?_
    rw [show committed (Spec.close s t) k = committed s k from rfl, show (Spec.close s t).dom = s.dom from rfl,
      mem_written hs (find_mem hf).1]
    cases committed s k <;> simp
  rw [← hconf]
  rcases commit_cases htm hf with ⟨hc, e⟩ | ⟨hc, ⟨_, e⟩ | ⟨_, e⟩⟩ <;> rw [e, hc] <;> simp

/-- ReadUncommitted / ReadCommitted commits never fail for that reason. -/
theorem C03_no_conflict_RU_RC (s : State) (t : Nat) (tx : STx) (htm : t ≠ mainTx)
    (hf : find s t = some tx) (hl : tx.level.snapshot = false) : (Spec.commit s t).2 = .ok := by
  rcases commit_cases htm hf with ⟨hc, _⟩ | ⟨_, ⟨_, e⟩ | ⟨_, e⟩⟩
  · rw [conflictS, hl] at hc; cases hc
  · rw [e]
  · rw [e]

/-- Commit on the concrete model answers what `Spec.commit` answers and keeps `R` -/
theorem C03_concrete {c : Sys} {s : State} (h : R c s) (t : Nat) :
    (c.step (.commit t)).2 = (Spec.commit s t).2 ∧ R (c.step (.commit t)).1 (Spec.commit s t).1 :=
  Refine.step h (.commit t) rfl

/-- non-vacuity: a two-key commit, a conflicting snapshot commit, a rollback -/
example :
    (Spec.run {} [.set 0 "a" 1, .begin 1 .rr, .begin 2 .ser, .set 1 "a" 2, .set 1 "b" 3, .set 2 "a" 4,
      .commit 1, .get 0 "a", .get 0 "b", .commit 2, .get 0 "a", .begin 3 .rc, .del 3 "a", .rollback 3, .get 0 "a"]).2
    = [.ok, .ok, .ok, .ok, .ok, .ok, .ok, .val 2, .val 3, .err .txSerialization, .val 2, .ok, .ok, .ok, .val 2] := rfl

end FsDb.C03
