import FsDb.Model.Wire
import FsDb.Model.Rpc
/-!
# C11 — The gRPC client is indistinguishable from the inline client

The laws of the glue (error classes, isolation levels, chunking) and, over the facade `Model/Rpc`
built from them: a call through the gRPC client is the same call through the inline client.
gRPC itself (except its message-size limit: `Rpc.callLim`, at the end), metadata transport and
interceptors are not modelled; the transport is trusted and *validated* (histories replayed through a
real server on loopback and compared with the specification line by line).
-/
namespace FsDb.C11
open FsDb.Wire

/-- Every error that wraps exactly one server-producible sentinel reaches the gRPC caller as that
    sentinel (whatever the wrapping). -/
theorem C11_error_class_single (s : Sentinel) : roundTrip [s] = s := by
  cases s <;> decide

/-- An error that wraps none of the sentinels reaches the caller as ErrUnknown. -/
theorem C11_error_class_none : roundTrip [] = .unknown := rfl

/-- An error that wraps ErrNoFreeSpace reaches the gRPC caller as ErrNoFreeSpace, whatever other sentinels it
    wraps: it is the first case of `errorToPbError`.  (The order of the other cases is `Wire.serverDetail`; no
    theorem here spells it out.) -/
theorem C11_error_class_priority (e : ErrSet) (h : .noFreeSpace ∈ e) : roundTrip e = .noFreeSpace :=
  if_pos h

/-- The status code and the detail agree: a client that only looks at the status code (a status
    without details) classifies every single-sentinel error the same way, except ErrHeaderNotFound,
    which has no code of its own and would arrive as ErrUnknown. -/
theorem C11_code_detail_agree (s : Sentinel) (h1 : s ≠ .headerNotFound) :
    clientFromCode (serverCode [s]) = roundTrip [s] := by
  cases s with
  | headerNotFound => exact absurd rfl h1
  | _ => rfl

/-- the isolation level survives the wire -/
theorem C11_iso_roundtrip (l : Lvl) : fromGrpc (toGrpc l) = l := by cases l <;> rfl

theorem readAll_close (w : Writer) : readAll w.close = w.sent.flatten ++ w.buf := by
  unfold readAll Writer.close
  split
  · next h => rw [List.isEmpty_iff.mp h, List.append_nil]
  · exact List.flatten_concat

theorem emitFull_flatten (cs fuel : Nat) (buf : List Nat) (sent : List (List Nat)) :
    (emitFull cs fuel buf sent).2.flatten ++ (emitFull cs fuel buf sent).1 = sent.flatten ++ buf := by
  fun_induction emitFull cs fuel buf sent with
  | case2 _ _ _ _ ih => rw [ih, List.flatten_concat, List.append_assoc, List.take_append_drop]
  | _ => rfl

theorem readAll_write (cs : Nat) (w : Writer) (p : List Nat) :
    readAll (w.write cs p).close = readAll w.close ++ p := by
  rw [readAll_close, readAll_close, List.append_assoc]
  exact emitFull_flatten ..

def writeAll (cs : Nat) (w : Writer) : List (List Nat) → Writer
  | [] => w
  | p :: ps => writeAll cs (w.write cs p) ps

/-- for every chunk size, 0 included: then `Close` sends everything as one chunk -/
theorem readAll_writeAll (cs : Nat) (w : Writer) (ps : List (List Nat)) :
    readAll (writeAll cs w ps).close = readAll w.close ++ ps.flatten := by
  induction ps generalizing w with
  | nil => exact (List.append_nil _).symm
  | cons p ps ih => rw [writeAll, ih, readAll_write, List.flatten_cons, List.append_assoc]

/-- the writer between two calls: every chunk sent so far has exactly the chunk size, and the buffer holds less
    than one chunk -/
structure Chunked (cs : Nat) (w : Writer) : Prop where
  sent : ∀ c ∈ w.sent, c.length = cs
  buf : w.buf.length < cs

section
variable {cs : Nat} (hcs : 0 < cs) {w : Writer}
include hcs

/-- the fuel `Writer.write` gives, more than the buffer is long, is enough to leave less than a
    chunk in the buffer -/
theorem emitFull_chunked {fuel : Nat} {buf : List Nat} {sent : List (List Nat)}
    (hf : buf.length < fuel) (h : ∀ c ∈ sent, c.length = cs) :
    Chunked cs ⟨(emitFull cs fuel buf sent).1, (emitFull cs fuel buf sent).2⟩ := by
  fun_induction emitFull cs fuel buf sent with
  | case1 => exact absurd hf (Nat.not_lt_zero _)
  | case2 buf sent n hc ih =>
    have hlt : (buf.drop cs).length < n := by
      rw [List.length_drop]
      exact Nat.lt_of_lt_of_le (Nat.sub_lt (Nat.lt_of_lt_of_le hcs hc.1) hcs) (Nat.le_of_lt_succ hf)
    exact ih hlt (List.forall_mem_append.mpr ⟨h, List.forall_mem_singleton.mpr (List.length_take_of_le hc.1)⟩)
  | case3 _ _ _ hc => exact ⟨h, Nat.lt_of_not_le fun hle => hc ⟨hle, hcs⟩⟩

theorem Chunked.write (h : Chunked cs w) (p : List Nat) : Chunked cs (w.write cs p) :=
  emitFull_chunked hcs (by rw [List.length_append]; exact Nat.lt_succ_self _) h.sent

theorem Chunked.writeAll (h : Chunked cs w) (ps : List (List Nat)) : Chunked cs (writeAll cs w ps) := by
  induction ps generalizing w with
  | nil => exact h
  | cons p ps ih => exact ih (h.write hcs p)

theorem Chunked.close (h : Chunked cs w) : ∀ c ∈ w.close, c.length ≤ cs ∧ c ≠ [] := by
  have hsent : ∀ c ∈ w.sent, c.length ≤ cs ∧ c ≠ [] := fun c hc =>
    ⟨Nat.le_of_eq (h.sent c hc), List.ne_nil_of_length_pos (h.sent c hc ▸ hcs)⟩
  unfold Writer.close
  split
  · exact hsent
  · next hne =>
    exact List.forall_mem_append.mpr
      ⟨hsent, List.forall_mem_singleton.mpr ⟨Nat.le_of_lt h.buf, mt List.isEmpty_iff.mpr hne⟩⟩

end

/-- **Chunk round trip.**  For every content and every split of it into Write calls (any sizes,
    including empty writes), with chunk size `cs > 0`: the chunks the stream carries concatenate
    to exactly the content (that is what the reader does), every chunk is at most `cs` bytes, and no
    chunk is empty. -/
theorem C11_chunk_roundtrip (cs : Nat) (hcs : 0 < cs) (ps : List (List Nat)) :
    readAll (writeAll cs {} ps).close = ps.flatten ∧
    (∀ c ∈ (writeAll cs {} ps).close, c.length ≤ cs ∧ c ≠ []) :=
  have h0 : Chunked cs {} := ⟨nofun, hcs⟩
  ⟨readAll_writeAll cs {} ps, (h0.writeAll hcs ps).close hcs⟩

example : (writeAll 4 {} [[1, 2, 3], [], [4, 5, 6, 7, 8, 9]]).close = [[1, 2, 3, 4], [5, 6, 7, 8], [9]] := rfl

open FsDb FsDb.Rpc

theorem content_roundtrip (cd : Codec) (c : Nat) :
    cd.ident (Wire.readAll (streamOf cd (cd.payload c))) = c := by
  rw [streamOf, readAll_write]
  exact cd.ident_payload c

theorem err_roundtrip (e : Err) : ofSentinel (Wire.clientFromDetail (Wire.serverDetail (errSet e))) = e := by
  cases e <;> decide

theorem reply_roundtrip (cd : Codec) (o : Out) : decodeReply cd (encodeReply cd o) = o := by
  cases o with
  | err e => exact congrArg Out.err (err_roundtrip e)
  | val c => exact congrArg Out.val (content_roundtrip cd c)
  | _ => rfl

theorem request_roundtrip (cd : Codec) (op : Op) : decodeReq cd (encodeReq cd op) = op := by
  cases op with
  | begin t l => cases l <;> rfl
  | set t k c => exact congrArg (Op.set t k) (content_roundtrip cd c)
  | _ => rfl

/-- **One call.**  Whatever the state of the server and whatever the call: the gRPC client's caller
    gets the value / the error class the inline client's caller gets, and the server's state moves
    the same way.  (Level through the wire enum, content both ways through the chunked stream,
    errors through status code + detail; the transport is trusted.) -/
theorem C11_call_eq_inline (cd : Codec) (s : Sys) (op : Op) : Rpc.call cd s op = s.step op := by
  unfold Rpc.call
  rw [request_roundtrip]
  simp only [reply_roundtrip]

/-- **Every sequence of calls.**  From any server state, a history of calls through the gRPC client gives the
    answers, and leaves the server in the state, that the same calls through the inline client do (no
    message-size limit here: `C11_end_to_end_within_limit_partial`). -/
theorem C11_end_to_end (cd : Codec) (s : Sys) (ops : List Op) : Rpc.run cd s ops = s.run ops := by
  induction ops generalizing s with
  | nil => rfl
  | cons op ops ih => simp only [Rpc.run, Sys.run, C11_call_eq_inline, ih]

/-- a server-side rejection is never swallowed: an error answer stays an error answer of the same class -/
theorem C11_rejection_reported (cd : Codec) (e : Err) : decodeReply cd (encodeReply cd (.err e)) = .err e :=
  reply_roundtrip cd (.err e)

theorem callLim_eq (cd : Codec) (lim : Nat) (s : Sys) (op : Op) : Rpc.callLim cd lim s op =
    if reqFits lim op then
      if replyFits lim (s.step op).2 then s.step op else ((s.step op).1, .err .noFreeSpace)
    else (s, .err .noFreeSpace) := by
  unfold Rpc.callLim
  simp only [request_roundtrip, reply_roundtrip]

/-- **Partial (what holds with the limit):** for every history all of whose messages fit the limit,
    the gRPC client is indistinguishable from the inline client. -/
theorem C11_end_to_end_within_limit_partial (cd : Codec) (lim : Nat) (s : Sys) (ops : List Op)
    (h : Rpc.Fits lim s ops) : Rpc.runLim cd lim s ops = s.run ops := by
  induction ops generalizing s with
  | nil => rfl
  | cons op ops ih =>
    obtain ⟨h1, h2, h3⟩ := h
    simp only [Rpc.runLim, Sys.run, callLim_eq, h1, h2, if_true, ih _ h3]

/-- **The full statement is false with the limit** (known finding `C11-getkeys-over-4MiB`): whenever
    the keys a GetKeys lists total more than the limit, the inline client lists them and the gRPC
    client reports ErrNoFreeSpace — for EVERY limit and EVERY server state. -/
theorem C11_getkeys_over_limit (cd : Codec) (lim : Nat) (s : Sys) (t : Nat) (ks : List Key)
    (hk : s.getKeys t = .keys ks) (hbig : lim < (ks.map Rpc.keySize).sum) :
    (s.step (.keys t)).2 = .keys ks ∧ (Rpc.callLim cd lim s (.keys t)).2 = .err .noFreeSpace := by
  have hs : (s.step (.keys t)).2 = .keys ks := hk
  have h2 : replyFits lim (s.step (.keys t)).2 = false := hs ▸ decide_eq_false (Nat.not_le_of_lt hbig)
  refine ⟨hs, ?_⟩
  -- the request carries no key and fits; the answer does not
  rw [callLim_eq, if_pos (show reqFits lim (.keys t) = true from rfl), h2]
  rfl

/-- Known finding `C11-key-over-4MiB`, as a theorem about the model: for every limit and every server state, a Set
    whose key is larger than the limit is refused over gRPC with ErrNoFreeSpace and changes nothing, whatever the
    inline client does with it.  (Stated for Set; the header of a Get or Delete request carries its key too,
    `Rpc.reqKey`.) -/
theorem C11_key_over_limit (cd : Codec) (lim : Nat) (s : Sys) (t : Nat) (k : Key) (c : Nat)
    (hbig : lim < Rpc.keySize k) : Rpc.callLim cd lim s (.set t k c) = (s, .err .noFreeSpace) :=
  if_neg (ne_true_of_eq_false (decide_eq_false (Nat.not_le_of_lt hbig)))

/-- witness (limit 3, key of 4 bytes): the inline client stores and lists it, the gRPC client does neither -/
example :
    let cd : Codec := ⟨fun c => [c], fun l => l.headD 0, 2048, by decide, fun _ => rfl⟩
    (({} : Sys).step (.set 0 "abcd" 7)).2 = .ok ∧
    (Rpc.callLim cd 3 {} (.set 0 "abcd" 7)).2 = .err .noFreeSpace ∧
    (Rpc.callLim cd 3 (({} : Sys).step (.set 0 "abcd" 7)).1 (.keys 0)).2 = .err .noFreeSpace ∧
    ((({} : Sys).step (.set 0 "abcd" 7)).1.step (.keys 0)).2 = .keys ["abcd"] := by
  decide

/-- non-vacuity of the partial theorem: a history whose messages all fit -/
example : Rpc.Fits 100 {} [.set 0 "k" 1, .keys 0, .get 0 "k"] :=
  ⟨rfl, rfl, rfl, rfl, rfl, rfl, trivial⟩

/-- non-vacuity: a codec exists (bytes of content `c` = the list `[c]`, chunks of 2048) -/
example : ∃ cd : Codec, cd.chunk = 2048 :=
  ⟨⟨fun c => [c], fun l => l.headD 0, 2048, by decide, fun _ => rfl⟩, rfl⟩

end FsDb.C11
