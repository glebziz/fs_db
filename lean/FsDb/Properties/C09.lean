import FsDb.Proofs.ConcMain
/-!
# C09 — Garbage collection and cleanup never change what anyone can read

A collector pass (`gc`) and a run of the worker pool (`drain`) are operations of the model like the clients'.
Left out of the theorems about histories: Close/Open and the storage walk (`op.core`); why the erasure argument
cannot follow a reopen is said at `plainOp`.  The theorems about one pass hold of any pair of states related by `R`,
so also after a reopen (`C04_reachable`).
-/
namespace FsDb.C09
open FsDb Spec

/-- Running the collector (at any reachable state, i.e. any position of any history, with any
    number of open transactions of any age) changes no result of any read by anyone, at any
    isolation level or outside transactions: Get and GetKeys answer the same immediately before
    and immediately after. -/
theorem C09_gc_invisible_now {c : Sys} {s : State} (h : R c s) (t : Nat) (k : Key) :
    (c.gc).1.get t k = c.get t k ∧ (c.gc).1.getKeys t = c.getKeys t :=
  -- on the specification the pass changes the clock at most, and no read looks at the clock
  reads_congr h (step_gc h).2 t k (by rw [gcStep_eq]; rfl) (by rw [gcStep_eq]; rfl)

/-- the same for background cleanup (`drain` runs every pending delete job) -/
theorem C09_cleanup_invisible_now {c : Sys} {s : State} (h : R c s) (t : Nat) (k : Key) :
    (c.drain).1.get t k = c.get t k ∧ (c.drain).1.getKeys t = c.getKeys t :=
  reads_congr h (step_drain h).2 t k rfl rfl

/-- After a collector pass the concrete state is related (`R`) to the specification state after the
    specification's own `gc` step, which keeps `hist`, `open_` and `dom` and is the *same* state when a
    transaction is open (otherwise only the clock advances).  (With `C02_refinement_step` from there, hence
    every later operation answers as the specification does; any number of passes: apply repeatedly.) -/
theorem C09_gc_invisible_later {c : Sys} {s : State} (h : R c s) :
    R (c.gc).1 (Spec.step s .gc).1 ∧
    (s.open_.isEmpty = false → (Spec.step s .gc).1 = s) ∧
    (Spec.step s .gc).1.hist = s.hist ∧ (Spec.step s .gc).1.open_ = s.open_ ∧ (Spec.step s .gc).1.dom = s.dom := by
  refine ⟨(step_gc h).2, ?_⟩
  rw [gcStep_eq]
  exact ⟨fun he => by rw [he]; rfl, rfl, rfl, rfl⟩

/-- for every history with collector passes and cleanup inserted at any positions the concrete
    model answers what the specification answers -/
theorem C09_refinement_with_gc (ops : List Op) (hops : ∀ op ∈ ops, op.core = true) :
    (({} : Sys).run ops).2 = (Spec.run {} ops).2 := Refine.run_init ops hops

/-- The collector never removes a content that some permitted read could still return: after a
    pass, whatever version `core.Get` hands to any registered reader (or to an autocommit caller)
    still has its content record, with the content it was written with. -/
theorem C09_no_live_content_removed {c : Sys} {s : State} (h : R c s) (tx : TxRec) (k : Key) (v : Ver)
    (hv : (c.gc).1.coreGet tx k = some v) : (c.gc).1.hasContent v.cid = v.val :=
  let h' : R (c.gc).1 (Spec.step s .gc).1 := (step_gc h).2
  h'.inv.stor k v (coreGet_mem h'.inv tx k hv)

/-- the horizon is never a version number (the side condition of C18_collect_lookup), in every
    reachable state -/
theorem C09_horizon_not_version {c : Sys} {s : State} (h : R c s) (k : Key) :
    ∀ v ∈ c.main k, v.seq ≠ gcHz c := by
  intro v hv
  have hva := h.inv.main_sub_all hv
  rcases gcHz_cases c with ⟨tx, htx, e⟩ | ⟨_, e⟩
  · exact e ▸ h.inv.beginNotVer tx htx k v hva
  · exact e ▸ Nat.ne_of_lt (Nat.lt_succ_of_le (h.inv.seq_le hva))

/-- **Invisible for ever**, on the specification.  Take any history of core operations (`op.core`: no Close/Open,
    no storage walk) with collector passes and worker-pool runs at any positions: the answers to the other
    operations (`keepFg`) are exactly the answers to the history with the passes and runs taken out.  (The
    specification only observes the order of stamps: `Shift`; why Close/Open is left out is said at `plainOp`.) -/
theorem C09_background_erasure_spec (ops : List Op) (hops : ∀ op ∈ ops, op.core = true) :
    keepFg ops (Spec.run {} ops).2 = (Spec.run {} (ops.filter (fun o => !isBg o))).2 :=
  erase_bg (Shift.refl {}) SInv.init OwnLe.init ops (fun op h => (plainOp_eq_core op).trans (hops op h))

/-- **Invisible for ever**, on the concrete model (version lists, all-store, collector, deletion queue): for any
    history of core operations, its answers to the operations other than collector passes and worker-pool runs are
    exactly its answers to the history without them (`C09_background_erasure_spec` through the refinement). -/
theorem C09_background_erasure (ops : List Op) (hops : ∀ op ∈ ops, op.core = true) :
    keepFg ops (({} : Sys).run ops).2 = (({} : Sys).run (ops.filter (fun o => !isBg o))).2 := by
  rw [Refine.run_init ops hops,
      Refine.run_init (ops.filter (fun o => !isBg o)) (fun op h => hops op (List.mem_filter.mp h).1)]
  exact C09_background_erasure_spec ops hops

/-- **Invisible under concurrency.**  For EVERY schedule of EVERY client programs of the small-step
    model (`Model/Conc`: any number of collector passes and pool workers running concurrently with
    the clients, step by step, with stale horizons, also inside the window of a Commit): the answers
    logged for the clients' operations, in the order of their linearization points, are exactly what
    the specification answers to those operations when no collector and no pool worker ever runs.
    (Every returned answer — GetKeys excepted — is a logged answer or the specification's answer at a
    log position: `C06_linearizable`.) -/
theorem C09_concurrent_erasure (acts : List Conc.Act) :
    let σ := Conc.exec {} acts
    keepFg (opsOf (Conc.linOps σ.lin)) (Conc.linOuts σ.lin)
      = (Spec.run {} ((opsOf (Conc.linOps σ.lin)).filter (fun o => !isBg o))).2 := by
  intro σ
  have h := Conc.reachable_inv acts
  have hp : ∀ op ∈ opsOf (Conc.linOps σ.lin), plainOp op = true := fun op hop =>
    Conc.log_plain h (.op op) (mem_opsOf hop)
  rw [← Conc.log_pure h]
  exact erase_bg (Shift.refl {}) SInv.init OwnLe.init _ hp

/-- non-vacuity: a snapshot reader keeps its version across two collector passes (on the
    specification by evaluation; the concrete model answers the same by `C02_refinement`) -/
example :
    (Spec.run {} [.set 0 "k" 1, .begin 1 .ser, .set 0 "k" 2, .set 0 "k" 3, .gc, .get 1 "k", .gc, .drain,
      .get 1 "k", .get 0 "k", .rollback 1, .gc, .get 0 "k"]).2
    = [.ok, .ok, .ok, .ok, .ok, .val 1, .ok, .ok, .val 1, .val 3, .ok, .ok, .val 3] := rfl

end FsDb.C09
