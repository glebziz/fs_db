import FsDb.Proofs.SysBasic
/-!
# C18 — Snapshot lookup returns the last version before the snapshot point

All statements are for lists of *any* length.  `C18_lastBefore` (the binary search of a well-formed
store computes a filter and a `getLast?`, `Proofs/VFile.lean`) makes the other lookup laws list
facts; the versions before a point are again sorted, so their last is their newest (`latest_max`).
-/
namespace FsDb.C18
open FsDb

/-- A snapshot read at `s` on a well-formed store (array search enabled) returns the newest
    version with `seq < s`, or nothing if there is none. -/
theorem C18_lastBefore (f : VFile) (h : f.WF) (hws : f.ws = false) (s : Nat) :
    f.lastBefore s = (f.l.filter (fun v => v.seq < s)).getLast? :=
  VFile.lastBefore_eq_spec h hws s

/-- The version a snapshot read at `s` returns on a well-formed store is in the list, has `seq < s`, and no
    version with `seq < s` is newer. -/
theorem C18_lastBefore_max (f : VFile) (h : f.WF) (hws : f.ws = false) (s : Nat) (v : Ver)
    (hv : f.lastBefore s = some v) :
    v ∈ f.l ∧ v.seq < s ∧ ∀ u ∈ f.l, u.seq < s → u.seq ≤ v.seq := by
  rw [C18_lastBefore f h hws s] at hv
  have hm := lastBeforeSpec_mem hv
  exact ⟨hm.1, hm.2, fun u hu hus =>
    latest_max (h.sorted.filter _) hv u (List.mem_filter.mpr ⟨hu, decide_eq_true hus⟩)⟩

/-- not-found iff no version is before the point -/
theorem C18_lastBefore_none (f : VFile) (h : f.WF) (hws : f.ws = false) (s : Nat) :
    f.lastBefore s = none ↔ ∀ u ∈ f.l, ¬ u.seq < s := by
  rw [C18_lastBefore f h hws s, List.getLast?_eq_none_iff, List.filter_eq_nil_iff]
  exact forall₂_congr fun _ _ => not_congr decide_eq_true_iff

/-- well-formedness (strictly increasing, array mirrors list) is preserved by every mutation -/
theorem C18_wf_preserved (f : VFile) (h : f.WF) :
    (∀ v : Ver, (∀ u ∈ f.l, u.seq < v.seq) → v.seq ≠ 0 → (f.pushBack v).WF) ∧
    (f.popFront).2.WF ∧ (f.popBack).2.WF ∧ (∀ hz, (f.collectOld hz).2.WF) :=
  ⟨fun _ hv hp => h.pushBack hv hp, h.popFront, h.popBack, fun hz => h.collectOld hz⟩

/-- Collecting up to `hz` removes *exactly* the versions that have a successor not newer than
    `hz` (they form a prefix), and what is removed plus what remains is the old list. -/
theorem C18_collect_exact (f : VFile) (h : f.WF) (hz : Nat) :
    (f.collectOld hz).1 ++ (f.collectOld hz).2.l = f.l ∧
    ∀ i (hi : i < f.l.length),
      (i < (f.collectOld hz).1.length ↔ ∃ h1 : i + 1 < f.l.length, f.l[i+1].seq ≤ hz) :=
  ⟨collect_append f.l hz, fun i hi => collect_exact f.l hz h.sorted h.pos i hi⟩

/-- The newest version is never collected. -/
theorem C18_collect_keeps_latest (f : VFile) (hz : Nat) :
    (f.collectOld hz).2.latest = f.latest :=
  collect_getLast? f.l hz

/-- Lookups after the horizon are unchanged by collection; at the horizon itself they are
    unchanged provided the horizon is not a version number (in fs_db horizons are begin
    numbers / fresh numbers from the same counter, hence never version numbers:
    `C09_horizon_not_version`). -/
theorem C18_collect_lookup (f : VFile) (h : f.WF) (hws : f.ws = false) (hz s : Nat)
    (hs : hz < s ∨ (hz = s ∧ ∀ v ∈ f.l, v.seq ≠ hz)) :
    (f.collectOld hz).2.lastBefore s = f.lastBefore s := by
  rw [VFile.lastBefore_eq_spec (h.collectOld hz) hws s, VFile.lastBefore_eq_spec h hws s]
  exact lastBeforeSpec_collect f.l hz s hs

/-- The side condition of `C18_collect_lookup` at `s = hz` is necessary (this is a *test of the
    model*, a single witness): versions 3,5; horizon 5; the lookup at 5 changes from 3 to
    nothing. Unreachable through the API. -/
theorem C18_horizon_is_version_witness :
    let f : VFile := { l := [⟨"k",0,1,3,none⟩, ⟨"k",0,2,5,none⟩], arr := [⟨"k",0,1,3,none⟩, ⟨"k",0,2,5,none⟩] }
    f.lastBefore 5 = some ⟨"k",0,1,3,none⟩ ∧ (f.collectOld 5).2.lastBefore 5 = none := by
  intro f
  have hwf : f.WF := ⟨by unfold SortedSeq; decide, fun _ => rfl, by decide⟩
  -- `bsearch` is by well-founded recursion and does not evaluate; `lastBeforeSpec` does
  rw [VFile.lastBefore_eq_spec hwf rfl, VFile.lastBefore_eq_spec (hwf.collectOld 5) rfl]
  decide

/-- Snapshot lookups are monotone in the snapshot point: a later point never sees an older
    version, and it sees *something* whenever the earlier point did. -/
theorem C18_lastBefore_mono (f : VFile) (h : f.WF) (hws : f.ws = false) (s s' : Nat) (hss : s ≤ s')
    (v : Ver) (hv : f.lastBefore s = some v) :
    ∃ v', f.lastBefore s' = some v' ∧ v.seq ≤ v'.seq := by
  obtain ⟨hm, hlt, _⟩ := C18_lastBefore_max f h hws s v hv
  have hlt' : v.seq < s' := Nat.lt_of_lt_of_le hlt hss
  cases hv' : f.lastBefore s' with
  | none => exact absurd hlt' ((C18_lastBefore_none f h hws s').mp hv' v hm)
  | some v' => exact ⟨v', rfl, (C18_lastBefore_max f h hws s' v' hv').2.2 v hm hlt'⟩

/-- Two snapshot points with no version numbered between them read the same version: a lookup
    depends on the point only through the set of versions before it. -/
theorem C18_lastBefore_stable (f : VFile) (h : f.WF) (hws : f.ws = false) (s s' : Nat)
    (hgap : ∀ u ∈ f.l, (u.seq < s ↔ u.seq < s')) :
    f.lastBefore s = f.lastBefore s' := by
  rw [C18_lastBefore f h hws s, C18_lastBefore f h hws s']
  exact congrArg _ (List.filter_congr fun u hu => decide_eq_decide.mpr (hgap u hu))

/-- Publishing a newer version never disturbs an older snapshot: after `pushBack v` every lookup
    at a point `s ≤ v.seq` answers what it answered before; a lookup past `v` answers `v`. -/
theorem C18_pushBack_lookup (f : VFile) (h : f.WF) (hws : f.ws = false) (v : Ver)
    (hv : ∀ u ∈ f.l, u.seq < v.seq) (hpos : v.seq ≠ 0) (s : Nat) :
    (f.pushBack v).lastBefore s = if v.seq < s then some v else f.lastBefore s := by
  rw [VFile.lastBefore_eq_spec (h.pushBack hv hpos) hws, VFile.lastBefore_eq_spec h hws]
  exact lastBeforeSpec_append_cons (b := []) (h.pushBack hv hpos).sorted s

/-- non-vacuity: a concrete non-trivial well-formed store -/
example : ({ l := [⟨"k",0,1,3,none⟩, ⟨"k",0,2,5,none⟩, ⟨"k",0,3,9,none⟩],
             arr := [⟨"k",0,1,3,none⟩, ⟨"k",0,2,5,none⟩, ⟨"k",0,3,9,none⟩] } : VFile).WF :=
  ⟨by unfold SortedSeq; decide, fun _ => rfl, by decide⟩

end FsDb.C18
