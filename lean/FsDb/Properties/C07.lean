import FsDb.Properties.C03
import FsDb.Properties.C06
/-!
# C07 — No lost update between concurrent snapshot transactions (first committer wins)

The commit is one critical section (tie: skeleton of `UpdateTx`; enforced schedules on the real code), hence one
atomic step: `C07_first_committer_wins` is about arbitrary interleavings of atomic steps, i.e. arbitrary histories.
The concurrent half, at the end of this file, rests on the small-step linearizability theorem of C06.
-/
namespace FsDb.C07
open FsDb Spec

/-- `t2` is an open snapshot transaction (RepeatableRead or Serializable) that began at stamp `b` and has written `k` -/
def Wrote (s : State) (t2 b : Nat) (k : Key) : Prop :=
  ∃ x, find s t2 = some x ∧ x.level.snapshot = true ∧ x.beginStamp = b ∧ (x.own k).isSome

/-- `Wrote`, and `k` has since received a committed value (stamp above `b`): the condition under which the Commit
    of `t2` fails (`C03_conflict_iff`), kept by every operation that `Keeps t2` (`Armed.run`) -/
def Armed (s : State) (t2 b : Nat) (k : Key) : Prop :=
  Wrote s t2 b k ∧ ∃ v, committed s k = some v ∧ v.stamp > b

/-- operations that neither end nor restart `t2` (and no restart of the database) -/
def Keeps (t2 : Nat) (op : Op) : Prop :=
  (∀ l, op ≠ .begin t2 l) ∧ op ≠ .commit t2 ∧ op ≠ .rollback t2 ∧ ∀ f, op ≠ .reopen f

theorem Wrote.step {s : State} {t2 b : Nat} {k : Key} (h : Wrote s t2 b k) {op : Op} (hop : Keeps t2 op) :
    Wrote (Spec.step s op).1 t2 b k := by
  obtain ⟨x, hf, hl, hb, ho⟩ := h
  obtain ⟨_, h2, h3, h4⟩ := hop
  have same : ∀ {s'}, find s' t2 = some x → Wrote s' t2 b k := fun hf' => ⟨x, hf', hl, hb, ho⟩
  have hclose : ∀ t, op = .commit t ∨ op = .rollback t → find (Spec.close s t) t2 = some x := fun t e => by
    rw [find_close, if_neg, hf]
    rintro rfl
    exact e.elim h2 h3
  refine step_ind (P := (Wrote · t2 b k)) (same := same hf) (ticked := same hf) (began := ?_)
    (wroteMain := fun _ _ => same hf) (wroteTx := ?_) (closed := fun t e => same (hclose t e))
    (published := fun t _ e _ => same (hclose t (.inl e))) (reopened := fun f e => absurd e (h4 f))
  · intro t l _ _ _
    exact same (by rw [find_of_append rfl, hf]; rfl)
  · intro t k' val
    refine ⟨putOwn t k' ⟨s.clock + 1, val⟩ x, by rw [find_of_map rfl (putOwn_id t k' _), hf]; rfl, hl, hb, ?_⟩
    rw [putOwn_own]
    split
    · rfl
    · exact ho

theorem Armed.run (s : State) (hs : SInv s) (t2 b k) (h : Armed s t2 b k) (ops : List Op)
    (hops : ∀ op ∈ ops, Keeps t2 op) : Armed (Spec.run s ops).1 t2 b k := by
  induction ops generalizing s with
  | nil => exact h
  | cons op ops ih =>
    obtain ⟨hop, hrest⟩ := List.forall_mem_cons.mp hops
    obtain ⟨v, hc, hv⟩ := h.2
    obtain ⟨w, hw, hvw⟩ := committed_mono hs hop.2.2.2 hc
    exact ih _ (hs.step op) ⟨Wrote.step h.1 hop, w, hw, Nat.lt_of_lt_of_le hv hvw⟩ hrest

/-- **First committer wins.**  Two transactions `t1 ≠ t2` are open, `t2` at RepeatableRead or
    Serializable, both have written `k`.  If `t1` commits successfully, then after any further
    history (`Keeps t2`: any operations of anybody, collector, cleanup — but no end of `t2` and no restart
    of the database) the commit of `t2` fails with ErrTxSerialization, leaves the committed state unchanged and
    closes `t2`. -/
theorem C07_first_committer_wins (s : State) (hs : SInv s) (t1 t2 : Nat) (x1 x2 : STx) (k : Key)
    (hne : t1 ≠ t2) (hm1 : t1 ≠ mainTx) (hm2 : t2 ≠ mainTx)
    (hf1 : find s t1 = some x1) (hf2 : find s t2 = some x2) (hl2 : x2.level.snapshot = true)
    (hw1 : (x1.own k).isSome) (hw2 : (x2.own k).isSome)
    (hok : (Spec.commit s t1).2 = .ok)
    (ops : List Op) (hops : ∀ op ∈ ops, Keeps t2 op) :
    let s' := (Spec.run (Spec.commit s t1).1 ops).1
    (Spec.commit s' t2).2 = .err .txSerialization ∧ (Spec.commit s' t2).1.hist = s'.hist ∧
      find (Spec.commit s' t2).1 t2 = none := by
  intro s'
  -- `t1` published `k` under the stamp `clock + 1`, above the begin stamp of `t2`, which is still open
  have harm : Armed (Spec.commit s t1).1 t2 x2.beginStamp k := by
    have hwr := (mem_written hs (find_mem hf1).1 k).mpr hw1
    rcases commit_cases hm1 hf1 with ⟨_, e⟩ | ⟨_, ⟨hnil, e⟩ | ⟨_, e⟩⟩ <;> rw [e] at hok ⊢
    · cases hok
    · rw [hnil] at hwr; cases hwr
    · obtain ⟨w, ho⟩ := Option.isSome_iff_exists.mp hw1
      refine ⟨⟨x2, ?_, hl2, rfl, hw2⟩, ⟨s.clock + 1, w.val⟩, ?_, Nat.lt_succ_of_le (hs.beginLe x2 (find_mem hf2).1)⟩
      · show find (Spec.close s t1) t2 = some x2
        rw [find_close, if_neg hne.symm, hf2]
      · rw [committed_publish, ho]
        exact if_pos hwr
  -- it is still armed after `ops`, and an armed transaction cannot commit
  have hsi := hs.step (.commit t1)
  obtain ⟨⟨x, hf, hl, hb, ho⟩, v, hc, hv⟩ := Armed.run _ hsi t2 x2.beginStamp k harm ops hops
  have hfail := (C03.C03_conflict_iff s' (hsi.run ops) t2 x hm2 hf hl).mpr ⟨k, v, ho, hc, hb ▸ hv⟩
  exact ⟨hfail, C03.C03_failed_commit_noop s' t2 hfail⟩

/-- Comparisons of literal stamps, no model involved: the value of `k` was committed at stamp 2, T1 and T2 began
    at 3 and 4, and each conflict check (`kStamp > begin`), made before the other transaction has published,
    finds nothing. -/
def splitCommitWitness : Bool :=
  -- both transactions began (stamps 3 and 4) after `k`'s value was committed (stamp 2)
  let begin1 := 3; let begin2 := 4; let kStamp := 2
  let check1 := decide (kStamp > begin1)          -- T1 checks: no conflict
  let check2 := decide (kStamp > begin2)          -- T2 checks before T1 published: no conflict
  (!check1) && (!check2)                           -- both go on to publish

/-- Arithmetic on literals that records the *pin's* commit skeleton (conflict check and publication in two
    critical sections, a yield point between them); neither `Spec` nor `Model/Conc` occurs in it.  In the schedule
    `T1.check, T2.check, T1.publish, T2.publish` both checks pass, so both commits go on to publish: a lost
    update.  The schedule is replayed on the real code by the check (`corpus` witness
    `2ser-1key:T1,T1,T1,T1,T1,T2,T2,T2,T2,T2,T1,T2`). -/
theorem C07_split_skeleton_loses_update : splitCommitWitness = true := by decide

/-- non-vacuity of the theorem's premises -/
example : (Spec.run {} [.set 0 "k" 1, .begin 1 .ser, .begin 2 .ser, .set 1 "k" 2, .set 2 "k" 3, .commit 1,
    .set 0 "j" 9, .gc, .get 2 "k", .commit 2, .get 0 "k"]).2
    = [.ok, .ok, .ok, .ok, .ok, .ok, .ok, .ok, .val 3, .err .txSerialization, .val 2] := rfl

/-- **However the operations — including the two Commit calls — interleave**: in the small-step model
    (`Model/Conc`) every `Commit` is logged as ONE entry at its linearization point, the call returns the logged
    answer, and the log is a legal history of the specification — to which `C07_first_committer_wins` applies
    with `ops` = the log entries between the two commits (`C07_concurrent_at_most_one`). -/
theorem C07_concurrent (acts : List Conc.Act) (i t : Nat) (o : Out)
    (hret : ((Conc.exec {} acts).thr i).pc = .ret o)
    (hop : ((Conc.exec {} acts).thr i).op = some (.commit t)) :
    let σ := Conc.exec {} acts
    let th := σ.thr i
    -- the commit's own log entry, between call and return, carries the returned answer …
    (th.invAt < th.witAt ∧ th.witAt ≤ σ.lin.length ∧ σ.lin[th.witAt - 1]? = some (i, .op (.commit t), o)) ∧
    -- … and the whole log is a specification history
    (Spec.run {} (opsOf (Conc.linOps σ.lin))).2 = Conc.linOuts σ.lin :=
  ⟨C06.C06_write_linearizable acts i (.commit t) o hret hop rfl, (C06.C06_log_is_spec_history acts).1⟩

/-- **At most one commits.**  Take ANY schedule of ANY client programs of the small-step model and
    look at its log (operations in the order of their linearization points, counter advances
    erased): `pre`, then the Commit of `t1`, then `mid`, then the Commit of `t2`, then `post`.  If
    after `pre` both transactions are open, `t2` is a snapshot transaction, both have written `k`,
    and nothing in `mid` ends or restarts `t2`: when the answer logged for — hence returned by
    (`C07_concurrent`) — the first Commit is nil, the answer of the second is ErrTxSerialization. -/
theorem C07_concurrent_at_most_one (acts : List Conc.Act) (pre mid post : List Op) (t1 t2 : Nat) (x1 x2 : STx) (k : Key)
    (hlog : opsOf (Conc.linOps (Conc.exec {} acts).lin) = pre ++ (Op.commit t1 :: mid ++ Op.commit t2 :: post))
    (hne : t1 ≠ t2) (hm1 : t1 ≠ mainTx) (hm2 : t2 ≠ mainTx)
    (hf1 : find (Spec.run {} pre).1 t1 = some x1) (hf2 : find (Spec.run {} pre).1 t2 = some x2)
    (hl2 : x2.level.snapshot = true) (hw1 : (x1.own k).isSome) (hw2 : (x2.own k).isSome)
    (hmid : ∀ op ∈ mid, Keeps t2 op)
    (hok : (Conc.linOuts (Conc.exec {} acts).lin)[pre.length]? = some .ok) :
    (Conc.linOuts (Conc.exec {} acts).lin)[pre.length + 1 + mid.length]? = some (.err .txSerialization) := by
  have hp := Conc.log_pure (Conc.reachable_inv acts)
  rw [hlog, List.cons_append] at hp
  rw [← hp] at hok ⊢
  rw [run_getElem?] at hok
  have hmain := C07_first_committer_wins _ (SInv.init.run pre) t1 t2 x1 x2 k hne hm1 hm2 hf1 hf2 hl2 hw1 hw2
    (Option.some.inj hok) mid hmid
  -- the second Commit is the step after `pre ++ commit t1 :: mid`
  rw [← List.cons_append, ← List.append_assoc,
    show pre.length + 1 + mid.length = (pre ++ Op.commit t1 :: mid).length by
      rw [List.length_append, List.length_cons]; exact Nat.add_right_comm _ _ _,
    run_getElem?, run_append]
  exact congrArg some hmain.1

/-- non-vacuity: two snapshot writers of "k" whose Commit calls interleave step by step (thread 2
    removes its registry entry before thread 1 runs UpdateTx): the log is `pre ++ [commit 1, commit 2]`,
    the hypotheses hold, the first Commit answers nil and the second ErrTxSerialization -/
def twoCommitters : List Conc.Act :=
  [.call 0 (.set 0 "k" 1), .run 0, .run 0, .run 0, .run 0,
   .call 1 (.begin 1 .ser), .run 1, .run 1, .run 1,
   .call 2 (.begin 2 .ser), .run 2, .run 2, .run 2,
   .call 1 (.set 1 "k" 2), .run 1, .run 1, .run 1, .run 1,
   .call 2 (.set 2 "k" 3), .run 2, .run 2, .run 2, .run 2,
   .call 1 (.commit 1), .call 2 (.commit 2), .run 1, .run 2, .run 1, .run 2, .run 1, .run 2]

example :
    opsOf (Conc.linOps (Conc.exec {} twoCommitters).lin)
      = [.set 0 "k" 1, .begin 1 .ser, .begin 2 .ser, .set 1 "k" 2, .set 2 "k" 3] ++ (Op.commit 1 :: [] ++ Op.commit 2 :: []) ∧
    Conc.linOuts (Conc.exec {} twoCommitters).lin = [.ok, .ok, .ok, .ok, .ok, .ok, .err .txSerialization] ∧
    (∃ x1 x2, find (Spec.run {} [.set 0 "k" 1, .begin 1 .ser, .begin 2 .ser, .set 1 "k" 2, .set 2 "k" 3]).1 1 = some x1 ∧
      find (Spec.run {} [.set 0 "k" 1, .begin 1 .ser, .begin 2 .ser, .set 1 "k" 2, .set 2 "k" 3]).1 2 = some x2 ∧
      x2.level.snapshot = true ∧ (x1.own "k").isSome = true ∧ (x2.own "k").isSome = true) := by
  exact ⟨by decide, by decide, _, _, rfl, rfl, rfl, rfl, rfl⟩

end FsDb.C07
