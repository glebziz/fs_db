import FsDb.Proofs.Codec
/-!
# C19 — Persisted version records round-trip and keep their on-disk format

Model: `Model/Codec` (`marshalFile` / `unmarshalFile` and the canonical uuid text form).  Left out: Badger (the
Badger key `Codec.fileKey` and `Codec.repoSet` are used by the correspondence run only; no theorem speaks of them);
Go's slice bounds (that decoding cannot panic is exercised by the correspondence, the model's `decode` is total);
`google/uuid` beyond the canonical form.  The sequence number is a `Nat`, assumed below 2^64 where that matters.
-/
namespace FsDb.C19
open FsDb.Codec

/-- every record (any key bytes incl. empty, 16-byte ids, any 64-bit sequence) decodes to exactly
    what was encoded -/
theorem C19_roundtrip (r : Rec) (hs : r.seq < 2^64) (ht : r.tx.length = 16) (hc : r.cid.length = 16) :
    decode (encode r) = some r := by
  have h8 := le64_length r.seq
  rw [encode, List.append_assoc, List.append_assoc, decode_eq,
    if_neg (by simp only [List.length_append, h8, ht, hc]; omega),
    List.take_left' h8, List.drop_left' h8, List.take_left' ht, List.drop_left' ht,
    List.take_left' hc, List.drop_left' hc, fromLe64_le64 hs]

/-- the release layout: 8-byte little-endian sequence, 16-byte transaction id, 16-byte content id,
    raw key — stated byte by byte for the sequence -/
theorem C19_layout (r : Rec) :
    encode r = le64 r.seq ++ r.tx ++ r.cid ++ r.key ∧
    ∀ i (hi : i < 8), ((le64 r.seq)[i]'(by simpa [le64_length] using hi)).toNat = r.seq / 256 ^ i % 256 := by
  refine ⟨rfl, fun i hi => ?_⟩
  simp only [le64_eq, toNat_getElem_leBytes]

/-- decoding rejects exactly the byte strings shorter than the fixed 40-byte header; it is a total
    function (no panic path in the model; the Go slice bounds are exercised by the correspondence) -/
theorem C19_reject_iff (bs : Bytes) : decode bs = none ↔ bs.length < 40 := by
  rw [decode_eq]
  split <;> simp [*]

/-- what is decoded from accepted bytes re-encodes to the same bytes -/
theorem C19_decode_encode (bs : Bytes) (r : Rec) (h : decode bs = some r) : encode r = bs := by
  rw [decode_eq] at h
  obtain ⟨hlen, h⟩ := Option.ite_none_left_eq_some.mp h
  cases h
  have h8 : (bs.take 8).length = 8 := List.length_take_of_le (by omega)
  simp only [encode, le64_fromLe64 h8, List.append_assoc, List.take_append_drop]

/-- canonical uuid text round trip: `Parse(String(b)) = b` for all 16-byte ids -/
theorem C19_uuid (b : Bytes) (h : b.length = 16) : parseUuid (formatUuid b) = some b := by
  -- a fixed 36-character layout: evaluated on the 16 bytes, each byte by `parseByte_fmtByte`
  match b, h with
  | [b0,b1,b2,b3,b4,b5,b6,b7,b8,b9,b10,b11,b12,b13,b14,b15], _ =>
    simp [parseUuid, formatUuid, fmtBytes, fmtByte, parseHex, parseByte_fmtByte]

/-- the encoding is injective on well-formed records: two different records (any key bytes, so
    also keys that are prefixes of one another) never share their persisted bytes -/
theorem C19_encode_injective (r r' : Rec) (hs : r.seq < 2^64) (ht : r.tx.length = 16) (hc : r.cid.length = 16)
    (hs' : r'.seq < 2^64) (ht' : r'.tx.length = 16) (hc' : r'.cid.length = 16)
    (h : encode r = encode r') : r = r' := by
  have h1 := C19_roundtrip r hs ht hc
  rw [h, C19_roundtrip r' hs' ht' hc'] at h1
  exact (Option.some.inj h1).symm

/-- decoding is injective on accepted byte strings: two different stored byte strings never decode to the same
    record (no two metadata entries collapse into one version) -/
theorem C19_decode_injective (bs bs' : Bytes) (r : Rec) (h : decode bs = some r) (h' : decode bs' = some r) :
    bs = bs' := by
  rw [← C19_decode_encode bs r h, ← C19_decode_encode bs' r h']

/-- non-vacuity -/
example : decode (encode ⟨258, List.replicate 16 0, List.replicate 16 255, [107]⟩)
    = some ⟨258, List.replicate 16 0, List.replicate 16 255, [107]⟩ :=
  C19_roundtrip _ (by decide) rfl rfl

end FsDb.C19
