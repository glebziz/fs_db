import FsDb.Model.WPool
import FsDb.Proofs.Pool
import FsDb.Model.PoolWg
/-!
# C16 — The worker pool runs every accepted job exactly once and stops cleanly

Three models of `internal/utils/wpool`, each for a question of its own:
* `Model/Pool`, the whole pool: Run, Send with its three-way select, the deferred path, the flusher, the channel,
  the workers, Stop with its two waits, any number of Run/Stop cycles.  Conservation, exactly once, quiescence,
  Stop's progress and its termination are proved on it, and extensions belong on it.  It has no wait-group
  counter: Stop's two waits are the guards `sel = [] ∧ lazy = [] ∧ fpc = .off` (`sendWg`) and
  `idleW = 0 ∧ execing = []` (`runWg`).
* `Model/WPool`, its deferred-send fragment, with the repaired and with the pin's flusher: kept for the pin's
  hand-off witness `C16_handoff_witness`.  What is proved there of the repaired flusher has its counterpart on
  `Model/Pool`.
* `Model/PoolWg`, the wait-group protocol between Send and Stop: a counter, and Go's misuse condition (an `Add`
  from zero while a `Wait` is in progress).
Checked on the real pool rather than proved: that the critical sections and selects of the code are
the model's steps (skeleton ties; orchestrated hand-off, send-before-run, stop-before-run, run-twice,
restart, double Stop, random stress).
-/
namespace FsDb.C16
open FsDb.WPool

/-! ## The deferred-send fragment (`Model/WPool`), with the repaired flusher (`e = true`) and the pin's -/

/-- One constructor for every branch of `WPool.step e` that returns a state, with the branch's guards as premises. -/
inductive WStep (e : Bool) (st : St) : Act → St → Prop
  | send j rest : st.toSend = j :: rest → st.lazyM = true →
      WStep e st .send { st with toSend := rest, list := j :: st.list }
  | start j rest : st.toSend = j :: rest → st.lazyM = false →
      WStep e st .send { st with toSend := rest, list := j :: st.list, lazyM := true, fpc := .loop }
  | exit : st.fpc = .loop → st.list = [] → e = true → WStep e st .flush { st with lazyM := false, fpc := .off }
  | linger : st.fpc = .loop → st.list = [] → e = false → WStep e st .flush { st with fpc := .exiting }
  | pop j rest : st.fpc = .loop → st.list = j :: rest → WStep e st .flush { st with list := rest, fpc := .sending j }
  | deliver j : st.fpc = .sending j → WStep e st .flush { st with delivered := j :: st.delivered, fpc := .loop }
  | exited : st.fpc = .exiting → WStep e st .flush { st with lazyM := false, fpc := .off }

theorem WStep.of_step {e : Bool} {st st' : St} {a : Act} : step e st a = some st' → WStep e st a st' := by
  fun_cases step e st a <;> intro h <;> cases h
  next j rest ht hl => exact .send j rest ht hl
  next j rest ht hl => exact .start j rest ht (eq_false_of_ne_true hl)
  next hf hl he => exact .exit hf hl he
  next hf hl he => exact .linger hf hl (eq_false_of_ne_true he)
  next hf j rest hl => exact .pop j rest hf hl
  next j hf => exact .deliver j hf
  next hf => exact .exited hf

theorem send_eq_none {e : Bool} {st : St} : step e st .send = none ↔ st.toSend = [] := by
  dsimp only [step]
  split
  · next h => exact ⟨fun _ => h, fun _ => rfl⟩
  · next h => exact ⟨by split <;> nofun, fun h' => nomatch h.symm.trans h'⟩

theorem flush_eq_none {e : Bool} {st : St} : step e st .flush = none ↔ st.fpc = .off := by
  dsimp only [step]
  cases st.fpc with
  | off => exact ⟨fun _ => rfl, fun _ => rfl⟩
  | loop => cases st.list <;> cases e <;> exact ⟨nofun, nofun⟩
  | sending j => exact ⟨nofun, nofun⟩
  | exiting => exact ⟨nofun, nofun⟩

/-- of the repaired flusher: `lazySendM` is held exactly while a flusher exists, no event is left in the list without
    one, and the state `exiting`, in which the pin's flusher lingers, does not occur -/
structure WInv (st : St) : Prop where
  flusher : st.lazyM = true ↔ st.fpc ≠ .off
  offEmpty : st.fpc = .off → st.list = []
  notExiting : st.fpc ≠ .exiting

theorem WInv.init (jobs : List Nat) : WInv (init jobs) := ⟨⟨nofun, fun h => absurd rfl h⟩, fun _ => rfl, nofun⟩

theorem WInv.step {st st' : St} {a : Act} (h : WInv st) (hs : WStep true st a st') : WInv st' := by
  cases hs with
  | send j rest _ hl => exact ⟨h.flusher, fun hf => absurd hf (h.flusher.1 hl), h.notExiting⟩
  | start => exact ⟨⟨fun _ => nofun, fun _ => rfl⟩, nofun, nofun⟩
  | exit _ hl => exact ⟨⟨nofun, fun hne => absurd rfl hne⟩, fun _ => hl, nofun⟩
  | pop j rest hf | deliver j hf =>
    exact ⟨⟨fun _ => nofun, fun _ => h.flusher.2 (hf ▸ nofun)⟩, nofun, nofun⟩
  | linger _ _ he => cases he
  | exited hf => exact absurd hf h.notExiting

/-- the multiset of events is conserved by every step: for every event, the number of its
    occurrences among "still to send, in the list, in the flusher's hand, delivered" never changes
    (no event is lost, none is duplicated) — for the repaired and for the pin's flusher alike -/
theorem C16_conservation (e : Bool) (st st' : St) (a : Act) (hl : st.lazyM = true ↔ st.fpc ≠ .off)
    (hs : step e st a = some st') (x : Nat) :
    (inFlight st').count x = (inFlight st).count x := by
  simp only [inFlight, List.count_append]
  cases WStep.of_step hs with
  | send j rest ht => simp +arith only [ht, List.count_cons]
  | start j rest ht hm =>
    have hf : st.fpc = .off := Decidable.by_contra fun hf => nomatch hm.symm.trans (hl.2 hf)
    simp +arith only [ht, hf, List.count_cons]
  | exit hf | linger hf | exited hf => simp only [hf]
  | pop j rest hf hr => simp +arith only [hf, hr, List.count_cons, List.count_nil]
  | deliver j hf => simp +arith only [hf, List.count_cons, List.count_nil]

/-- states the repaired deferred-send path (`step true`) reaches from `init jobs`, by any schedule -/
inductive Reach (jobs : List Nat) : St → Prop
  | init : Reach jobs (init jobs)
  | step (st st' : St) (a : Act) : Reach jobs st → step true st a = some st' → Reach jobs st'

theorem WInv.reach {jobs : List Nat} {st : St} (h : Reach jobs st) :
    WInv st ∧ ∀ x, (inFlight st).count x = jobs.count x := by
  induction h with
  | init => exact ⟨.init jobs, fun x => by simp only [inFlight, WPool.init, List.append_nil]⟩
  | step st st' a _ hs ih =>
    exact ⟨ih.1.step (.of_step hs), fun x => (C16_conservation true st st' a ih.1.flusher hs x).trans (ih.2 x)⟩

/-- **Every accepted event is delivered exactly once, and no further Send is needed to flush it.**
    In every reachable state of the repaired deferred-send path in which nothing can move any more
    (all Sends returned, the flusher is off), the list is empty and every event has been delivered
    to the channel exactly as many times as it was sent. -/
theorem C16_every_job_delivered (jobs : List Nat) (st : St) (h : Reach jobs st) (hq : quiescent true st = true) :
    st.toSend = [] ∧ st.list = [] ∧ st.fpc = .off ∧ ∀ x, st.delivered.count x = jobs.count x := by
  obtain ⟨i, hc⟩ := WInv.reach h
  simp only [quiescent, Bool.and_eq_true, Option.isNone_iff_eq_none, send_eq_none, flush_eq_none] at hq
  refine ⟨hq.1, i.offEmpty hq.2, hq.2, fun x => ?_⟩
  rw [← hc x]
  simp only [inFlight, hq.1, i.offEmpty hq.2, hq.2, List.nil_append]

/-- while something is still to be done, something can move (the flusher never needs a Send to
    be woken: whenever the list is non-empty a flusher is running) -/
theorem C16_flusher_covers (jobs : List Nat) (st : St) (h : Reach jobs st) (hne : st.list ≠ []) :
    (step true st .flush).isSome = true :=
  Option.isSome_iff_ne_none.2 fun hn => hne ((WInv.reach h).1.offEmpty (flush_eq_none.1 hn))

/-- the pin's flusher (lazySendM released in a later step than the pop): a deferred Send slips in
    between; afterwards nothing can move, yet event 2 sits in the list, undelivered.  A test of the
    model; the check replays the schedule on the real pool (scenario `handoff`). -/
theorem C16_handoff_witness :
    ∃ st, run false (init [1, 2]) [.send, .flush, .flush, .flush, .send, .flush] = some st ∧
      quiescent false st = true ∧ st.list = [2] ∧ st.delivered = [1] := by
  refine ⟨_, rfl, ?_, ?_, ?_⟩ <;> decide

/-- non-vacuity: the same schedule on the repaired model delivers both -/
example : ∃ st, run true (init [1, 2]) [.send, .flush, .flush, .flush, .send, .flush, .flush, .flush] = some st ∧
    quiescent true st = true ∧ st.delivered = [2, 1] := by
  refine ⟨_, rfl, ?_, ?_⟩ <;> decide

end FsDb.C16

-- Three blocks, since the three models share their names (`St`, `Act`, `step`, `run`) and each is opened in turn.
-- They have to be one namespace: the check's audit (`checklib/common.py`, `theorem_names`) gives every theorem
-- of a file the file's first `namespace`.
namespace FsDb.C16
open FsDb.Pool

/-! ## The whole pool (`Model/Pool`) -/

/-- **Conservation.**  For EVERY sequence of actions of any number of Sends, the flusher, the workers,
    Run and Stop (disabled ones skipped): every job accepted by Send is in exactly one place — in the
    hand of a Send, in the channel, in the deferred list, in the flusher's hand, being executed,
    executed, or given up by a Stop — with its multiplicity. -/
theorem C16_pool_conservation (nw : Nat) (acts : List Pool.Act) (j : Nat) :
    (Pool.run (Pool.init nw) acts).accepted.count j = (places (Pool.run (Pool.init nw) acts)).count j :=
  ((Pool.Inv.init nw).run acts).cons j

theorem exactly_once {s : Pool.St} (hi : Pool.Inv s) (hd : s.accepted.Nodup) (j : Nat) :
    s.executed.count j ≤ 1 ∧ (j ∈ s.executed → j ∉ s.dropped) := by
  have h1 := List.nodup_iff_count.mp hd j
  rw [hi.cons j, places, List.count_append, List.count_append] at h1
  refine ⟨by omega, fun he hdrop => ?_⟩
  have := List.count_pos_iff.2 he
  have := List.count_pos_iff.2 hdrop
  omega

/-- **Exactly once.**  If the accepted jobs are distinct, no job is executed twice, and an executed
    job was not also given up. -/
theorem C16_exactly_once (nw : Nat) (acts : List Pool.Act) (hd : (Pool.run (Pool.init nw) acts).accepted.Nodup) (j : Nat) :
    (Pool.run (Pool.init nw) acts).executed.count j ≤ 1 ∧
    (j ∈ (Pool.run (Pool.init nw) acts).executed → j ∉ (Pool.run (Pool.init nw) acts).dropped) :=
  exactly_once ((Pool.Inv.init nw).run acts) hd j

/-- **Nothing is given up while the pool is running**: only a Stop makes the pool drop a job. -/
theorem C16_no_drop_while_running (s s' : Pool.St) (a : Pool.Act) (hs : Pool.step s a = some s')
    (hr : s.running = true) (ha : a ≠ .stop) : s'.dropped = s.dropped := by
  induction Step.of_step hs with
  | selDone _ _ h | flushDone _ _ h => exact nomatch hr.symm.trans h
  | waitRun => exact absurd rfl ha
  | _ => rfl

/-- Nothing but new Sends, Run or Stop can happen.  `selDone`, `flushDone` and `workerExit` are not asked about:
    they are disabled while `running = true`, the only situation `Quiet` is used in. -/
def Quiet (s : Pool.St) : Prop :=
  (∀ j, Pool.step s (.selPush j) = none) ∧ (∀ j, Pool.step s (.selTimeout j) = none) ∧
  (∀ j, Pool.step s (.lazyPush j) = none) ∧ Pool.step s .flush = none ∧ Pool.step s .take = none ∧
  (∀ j, Pool.step s (.finish j) = none)

theorem quiescent_all_executed {nw : Nat} {s : Pool.St} (hi : Pool.Inv s) (hsz : Pool.Sized nw s) (hnw : 0 < nw)
    (hr : s.running = true) (hq : Quiet s) (j : Nat) : s.accepted.count j = s.executed.count j + s.dropped.count j := by
  obtain ⟨_, q2, q3, q4, q5, q6⟩ := hq
  have stuck {a : Pool.Act} (q : Pool.step s a = none) (h : (Pool.step s a).isSome = true) : False :=
    Option.isSome_iff_ne_none.1 h q
  have hsel : s.sel = [] := List.eq_nil_iff_forall_not_mem.2 fun x hx => stuck (q2 x) (Step.selTimeout x hx).isSome
  have hlazy : s.lazy = [] := List.eq_nil_iff_forall_not_mem.2 fun x hx => stuck (q3 x) (lazyPush_isSome hx)
  have hexec : s.execing = [] := List.eq_nil_iff_forall_not_mem.2 fun x hx => stuck (q6 x) (Step.finish x hx).isSome
  -- all `nw` workers are idle, so the channel is empty; then the flusher could deliver, so it is off
  have hidle : 0 < s.idleW := by
    have := hi.workers (hi.runOf hr).1
    rw [hexec, hsz.noExit hr, hsz.nwEq] at this
    exact Nat.lt_of_lt_of_eq hnw this.symm
  have hch : s.ch = [] := by
    cases hc : s.ch with
    | nil => rfl
    | cons x xs => exact (stuck q5 (Step.take x xs hc hidle).isSome).elim
  have hfpc : s.fpc = .off := by
    cases hf : s.fpc with
    | off => rfl
    | loop => exact (stuck q4 (flush_isSome_of_loop hf)).elim
    | sending x =>
      refine (stuck q4 (Step.flushSend x hf ?_).isSome).elim
      rw [hch, hsz.capEq]
      exact Nat.mul_pos (by decide) hnw
  have hlist : s.list = [] := Decidable.by_contra fun hne => hi.flusher.1 (hi.covers hr hne) hfpc
  rw [hi.cons j, places, hsel, hlazy, hch, hlist, hfpc, hexec]
  exact List.count_append

/-- **Every accepted job is executed, without further Sends.**  While the pool is running (at least
    one worker), whenever nothing can move any more, every accepted job has been executed (or had been
    given up by an earlier Stop): nothing is stuck in a Send, in the deferred list, in the flusher, in
    the channel or in a worker. -/
theorem C16_quiescent_all_executed (nw : Nat) (hnw : 0 < nw) (acts : List Pool.Act)
    (hr : (Pool.run (Pool.init nw) acts).running = true) (hq : Quiet (Pool.run (Pool.init nw) acts)) (j : Nat) :
    (Pool.run (Pool.init nw) acts).accepted.count j =
      (Pool.run (Pool.init nw) acts).executed.count j + (Pool.run (Pool.init nw) acts).dropped.count j :=
  quiescent_all_executed ((Pool.Inv.init nw).run acts) ((Pool.Sized.init nw).run acts) hnw hr hq j

/-- **Send returns promptly**: a Send inside its select can always take the timeout branch, and the
    deferred path (`lazySend`) never waits for a worker or for the flusher. -/
theorem C16_send_never_waits (s : Pool.St) (j : Nat) :
    (j ∈ s.sel → (Pool.step s (.selTimeout j)).isSome = true) ∧ (j ∈ s.lazy → (Pool.step s (.lazyPush j)).isSome = true) :=
  ⟨fun h => (Step.selTimeout j h).isSome, lazyPush_isSome⟩

theorem stop_progress {s : Pool.St} (hi : Pool.Inv s) (hst : s.stop ≠ .idle) :
    ∃ a, (∀ j, a ≠ .send j) ∧ a ≠ .run ∧ (Pool.step s a).isSome = true := by
  have hr := (hi.stopOf hst).1
  cases hstop : s.stop with
  | idle => exact absurd hstop hst
  | cancelled =>
    cases hsel : s.sel with
    | cons x xs => exact ⟨.selDone x, nofun, nofun, (Step.selDone x (hsel ▸ .head _) hr).isSome⟩
    | nil =>
      cases hlz : s.lazy with
      | cons x xs => exact ⟨.lazyPush x, nofun, nofun, lazyPush_isSome (hlz ▸ .head _)⟩
      | nil =>
        cases hf : s.fpc with
        | off => exact ⟨.stop, nofun, nofun, (Step.waitSend hstop hsel hlz hf).isSome⟩
        | loop => exact ⟨.flush, nofun, nofun, flush_isSome_of_loop hf⟩
        | sending x => exact ⟨.flushDone, nofun, nofun, (Step.flushDone x hf hr).isSome⟩
  | waitedSend =>
    cases hex : s.execing with
    | cons x xs => exact ⟨.finish x, nofun, nofun, (Step.finish x (hex ▸ .head _)).isSome⟩
    | nil =>
      cases hid : s.idleW with
      | zero => exact ⟨.stop, nofun, nofun, (Step.waitRun hstop hid hex).isSome⟩
      | succ n => exact ⟨.workerExit, nofun, nofun, (Step.workerExit (hid ▸ n.succ_pos) hr).isSome⟩

/-- **Stop cannot dead-lock.**  While a Stop is in progress (in any reachable state) some goroutine can
    move, and it is not a new Send or Run: Stop itself, a Send leaving its select through `ctx.Done()`,
    a deferred push, the flusher, a worker finishing its job or exiting. -/
theorem C16_stop_progress (nw : Nat) (acts : List Pool.Act) (hst : (Pool.run (Pool.init nw) acts).stop ≠ .idle) :
    ∃ a, (∀ j, a ≠ .send j) ∧ a ≠ .run ∧ (Pool.step (Pool.run (Pool.init nw) acts) a).isSome = true :=
  stop_progress ((Pool.Inv.init nw).run acts) hst

def fpcW : Pool.FPc → Nat
  | .off => 0
  | _ => 1

def stopW : Pool.StopPc → Nat
  | .idle => 0
  | .cancelled => 2
  | .waitedSend => 1

/-- How far the pool is from rest: every job weighs what it still has to go through, `sel` → `lazy` → `list` →
    the flusher's hand → `ch` → `execing`.  Consecutive weights differ by 2 because a move may raise a unit term by 1
    at the same time: `lazyStart` turns `fpcW` from 0 to 1, `finish` returns a worker to `idleW`.  `stopW` counts
    Stop's own two steps. -/
def poolMu (s : Pool.St) : Nat :=
  14 * s.sel.length + 12 * s.lazy.length + 10 * s.list.length + 8 * (Pool.hand s.fpc).length +
  6 * s.ch.length + 4 * s.execing.length + fpcW s.fpc + s.idleW + stopW s.stop

/-- every step of every goroutine of the pool — a Send inside its select, the flusher, a worker, Stop —
    strictly decreases `poolMu`; only a NEW Send, a Run or the first step of a Stop (`stopW`) can raise it -/
theorem C16_every_action_progress (s s' : Pool.St) (a : Pool.Act) (ha : ∀ j, a ≠ .send j) (hr : a ≠ .run)
    (hb : a = .stop → s.stop ≠ .idle)      -- not the beginning of a Stop
    (hs : Pool.step s a = some s') : poolMu s' < poolMu s := by
  unfold poolMu
  induction Step.of_step hs with
  | rerun | start => exact absurd rfl hr
  | accept j | refuse j => exact absurd rfl (ha j)
  | cancel hst => exact absurd hst (hb rfl)
  | selPush j hj | selDone j hj | selTimeout j hj | lazyPush j hj | finish j hj =>
    -- the summands after the last one that changes are the same on both sides
    simp only [Nat.add_lt_add_iff_right]
    simp +arith only [length_erase_mem hj, List.length_cons, List.length_append, List.length_nil]
  | lazyStart j hj =>
    -- `s.fpc` is not known to be `.off` here (that is `Inv.flusher`); whatever it is only adds weight to `s`
    simp +arith only [length_erase_mem hj, List.length_cons, hand, fpcW, List.length_nil]
  | flushExit hf | flushSend j hf | flushDone j hf =>
    simp +arith only [hf, hand, fpcW, List.length_cons, List.length_append, List.length_nil]
  | flushPop j rest hf hl =>
    simp +arith only [hf, hl, hand, fpcW, List.length_cons, List.length_nil]
  | take j rest hc hi =>
    obtain ⟨n, hn⟩ := Nat.exists_eq_add_one.2 hi
    simp +arith only [hc, hn, List.length_cons, Nat.add_sub_cancel]
  | workerExit hi =>
    obtain ⟨n, hn⟩ := Nat.exists_eq_add_one.2 hi
    simp +arith only [hn, Nat.add_sub_cancel]
  | waitSend hst => simp +arith only [hst, stopW]
  | waitRun hst => simp +arith only [hst, stopW, List.length_nil]

/-- a sequence of steps none of which is a new Send, a Run or the beginning of a Stop -/
def Settling (s : Pool.St) : List Pool.Act → Prop
  | [] => True
  | a :: as => (∀ j, a ≠ .send j) ∧ a ≠ .run ∧ (a = .stop → s.stop ≠ .idle) ∧
      ∃ s', Pool.step s a = some s' ∧ Settling s' as

theorem settling_bounded {s : Pool.St} {as : List Pool.Act} (h : Settling s as) : as.length ≤ poolMu s := by
  induction as generalizing s with
  | nil => exact Nat.zero_le _
  | cons a as ih =>
    obtain ⟨h1, h2, h3, s', hs, hrest⟩ := h
    exact Nat.lt_of_le_of_lt (ih hrest) (C16_every_action_progress s s' a h1 h2 h3 hs)

/-- **Stop's termination measure.**  From any reachable state, a sequence of steps none of which is a new Send, a
    Run or the beginning of a Stop (`Settling`: Sends leaving their select, the flusher, workers taking,
    finishing — every job function returns: the `finish` step — and exiting, Stop's own later steps) has at
    most `poolMu` steps.  No fairness is assumed.  The statement does not speak of Stop: that a Stop in progress
    returns under every scheduler follows with `C16_stop_progress` (until it has returned one of these steps is
    enabled), an inference no theorem here draws.  (New Sends are refused while the context is cancelled: they
    change nothing.) -/
theorem C16_stop_returns (nw : Nat) (acts as : List Pool.Act)
    (h : Settling (Pool.run (Pool.init nw) acts) as) :
    as.length ≤ poolMu (Pool.run (Pool.init nw) acts) :=
  settling_bounded h

/-- executable form of `Settling` (for the witness below) -/
def settlingB (s : Pool.St) : List Pool.Act → Bool
  | [] => true
  | a :: as =>
    (match a with | .send _ => false | .run => false | .stop => decide (s.stop ≠ .idle) | _ => true) &&
    (match Pool.step s a with | some s' => settlingB s' as | none => false)

theorem settling_of_B (s : Pool.St) (as : List Pool.Act) (h : settlingB s as = true) : Settling s as := by
  induction as generalizing s with
  | nil => trivial
  | cons a as ih =>
    obtain ⟨h1, h2⟩ := Bool.and_eq_true_iff.1 h
    split at h2
    · next s' hs =>
      refine ⟨?_, ?_, ?_, s', hs, ih s' h2⟩
      · rintro j rfl; cases h1
      · rintro rfl; cases h1
      · rintro rfl; exact of_decide_eq_true h1
    · cases h2

/-- non-vacuity: one worker; a job is being executed, one waits in the channel, a third is inside
    its Send when Stop cancels the context; the pool then settles in 5 steps (`poolMu` = 26 there)
    and Stop has returned -/
example :
    let s := Pool.run (Pool.init 1) [.run, .send 1, .selPush 1, .take, .send 2, .selPush 2, .send 3, .stop]
    let as : List Pool.Act := [.selDone 3, .stop, .finish 1, .workerExit, .stop]
    s.stop = .cancelled ∧ poolMu s = 26 ∧ settlingB s as = true ∧ (Pool.run s as).stop = .idle ∧
    (Pool.run s as).runM = false := by decide

/-- **No job starts after Stop has returned** (until the next Run): no worker is left, nothing is
    being executed, no worker can take a job. -/
theorem C16_no_start_after_stop (nw : Nat) (acts : List Pool.Act) (hrm : (Pool.run (Pool.init nw) acts).runM = false) :
    (Pool.run (Pool.init nw) acts).execing = [] ∧ Pool.step (Pool.run (Pool.init nw) acts) .take = none := by
  have i := (Pool.Inv.init nw).run acts
  exact ⟨i.stopped_execing hrm, by rw [Pool.step, i.stopped_ch hrm]⟩

/-- non-vacuity: 1 worker (channel of 2), five jobs: the first is taken, two fill the channel, two take
    the deferred path; the worker drains everything; then Stop -/
example :
    let s := Pool.run (Pool.init 1) [.run, .send 1, .selPush 1, .take, .send 2, .selPush 2, .send 3, .selPush 3,
      .send 4, .selTimeout 4, .lazyPush 4, .send 5, .selTimeout 5, .lazyPush 5, .flush,
      .finish 1, .take, .flush, .finish 2, .take, .flush, .flush, .finish 3, .take, .flush, .flush,
      .finish 5, .take, .finish 4]
    s.executed = [4, 5, 3, 2, 1] ∧ s.running = true ∧ s.dropped = [] := by decide

end FsDb.C16

/-! ## The wait-group protocol between Send and Stop (`Model/PoolWg`; the defect repaired by 775f13a) -/
namespace FsDb.C16
open FsDb.PoolWg

/-- while a Stop is waiting the pool is not running, and nothing was misused so far -/
def WgInv (s : PoolWg.St) : Prop := (s.waiting = true → s.running = false) ∧ s.misuse = false

theorem WgInv.step {s s' : PoolWg.St} {a : PoolWg.Act} (h : WgInv s) : PoolWg.step true s a = some s' → WgInv s' := by
  obtain ⟨h1, h2⟩ := h
  fun_cases PoolWg.step true s a <;> intro hs <;> cases hs
  next => exact ⟨h1, h2⟩
  next hg =>
    -- the Send saw the pool running, so no Stop is waiting: its `Add` is no misuse
    cases hw : s.waiting with
    | false => exact ⟨nofun, by rw [h2]; rfl⟩
    | true => exact absurd (congrArg (true && !·) (h1 hw)) hg
  next => exact ⟨h1, h2⟩
  next => exact ⟨fun _ => rfl, h2⟩
  next => exact ⟨nofun, h2⟩
  next hg => exact ⟨fun hw => (nomatch (Bool.not_eq_eq_eq_not.1 hg.2).symm.trans hw), h2⟩

theorem WgInv.run {s : PoolWg.St} (h : WgInv s) (acts : List PoolWg.Act) : WgInv (PoolWg.run true s acts) := by
  induction acts generalizing s with
  | nil => exact h
  | cons a as ih =>
    dsimp only [PoolWg.run]
    cases hs : PoolWg.step true s a with
    | none => exact ih h
    | some s' => exact ih (h.step hs)

/-- **The repaired protocol never misuses the wait group**: for every sequence of Sends entering and
    leaving, Stops and Runs, no `Add` from zero happens while a `Wait` is in progress — the panic
    `WaitGroup is reused before previous Wait has returned` cannot occur. -/
theorem C16_waitgroup_never_misused (acts : List PoolWg.Act) : (PoolWg.run true {} acts).misuse = false :=
  (WgInv.run (s := {}) ⟨nofun, rfl⟩ acts).2

/-- the pin: a Send that registers itself while Stop waits on an empty group — Go panics -/
theorem C16_waitgroup_pin_witness : (PoolWg.run false {} [.stopCancel, .sendEnter]).misuse = true := by decide

end FsDb.C16
