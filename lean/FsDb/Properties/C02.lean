import FsDb.Proofs.Refine
import FsDb.Proofs.SpecInv
import FsDb.Proofs.SortKeys
/-!
# C02 — Each isolation level shows a transaction exactly the versions it promises

`C02_refinement` carries the concrete model over to the specification `Spec.Iso`; the other theorems spell out, on the
specification, the clauses of the property.
-/
namespace FsDb.C02
open FsDb Spec

/-- For every history of Begin/Set/Delete/Get/GetKeys/Commit/Rollback, garbage collection and background cleanup
    (in any order, any number of open transactions of any levels, any number of versions per key) the concrete
    model — version lists, array search, all-store links, re-sequencing commit, collector — answers exactly what
    the specification answers. -/
theorem C02_refinement (ops : List Op) (hops : ∀ op ∈ ops, op.core = true) :
    (({} : Sys).run ops).2 = (Spec.run {} ops).2 :=
  Refine.run_init ops hops

/-- One step from any pair of states related by `R`, for any operation but Close/Open and the storage walk
    (`op.core`): the concrete model answers what the specification answers, and the states are related again
    (`R` is inductive, not just reachable from the empty store). -/
theorem C02_refinement_step {c : Sys} {s : State} (h : R c s) (op : Op) (hop : op.core = true) :
    (c.step op).2 = (Spec.step s op).2 ∧ R (c.step op).1 (Spec.step s op).1 :=
  Refine.step h op hop

/-- the candidates a ReadUncommitted read chooses from: the committed value and every open transaction's own
    last write -/
def ruCandidates (s : State) (k : Key) : List (Option SVer) := committed s k :: s.open_.map (fun t => t.own k)

/-- ReadUncommitted: the read returns one of the candidates, and no candidate is more recent
    (the second conjunct is `OptLe SVer.stamp c (visible …)` written out):
    "the most recent write to the key by anyone, committed or not" (rolled-back writes are gone:
    `rollback` removes the transaction from `open_`). -/
theorem C02_RU (s : State) (b : Nat) (own : Key → Option SVer) (k : Key) :
    visible s .ru b own k ∈ ruCandidates s k ∧
    ∀ c ∈ ruCandidates s k, ∀ x, c = some x → ∃ y, visible s .ru b own k = some y ∧ x.stamp ≤ y.stamp := by
  have := foldl_newerBy (f := SVer.stamp) (s.open_.map fun t => t.own k) (committed s k)
  rwa [List.foldl_map, ← newerS_eq] at this

/-- ReadCommitted: the more recent of the transaction's own last write and the committed value. -/
theorem C02_RC (s : State) (b : Nat) (own : Key → Option SVer) (k : Key) :
    visible s .rc b own k = newerS (own k) (committed s k) := rfl

/-- RepeatableRead / Serializable: a key the transaction has written reads as its own last write. -/
theorem C02_RR_own (s : State) (lvl : Level) (hl : lvl.snapshot = true) (b : Nat) (own : Key → Option SVer)
    (k : Key) (v : SVer) (h : own k = some v) : visible s lvl b own k = some v := by
  cases lvl <;> simp [Level.snapshot] at hl <;> simp [visible, h]

/-- RepeatableRead / Serializable, a key the transaction has not written: the newest committed version with a
    stamp below the begin stamp.  (With `C08_repeatable`, hence the value that was committed when the transaction
    began, for as long as it is open: later commits carry later stamps.) -/
theorem C02_RR_snapshot (s : State) (lvl : Level) (hl : lvl.snapshot = true) (b : Nat) (own : Key → Option SVer)
    (k : Key) (h : own k = none) :
    visible s lvl b own k = ((s.hist k).filter (fun v => v.stamp < b)).getLast? := by
  cases lvl <;> simp [Level.snapshot] at hl <;> simp [visible, h]

/-- a deleted value reads as ErrNotFound -/
theorem C02_deleted_reads_notfound (st : Nat) : outOf (some ⟨st, none⟩) = .err .notFound := rfl

/-- reads outside any transaction behave as ReadCommitted with no own writes -/
theorem C02_autocommit_is_RC (s : State) (k : Key) :
    Spec.get s mainTx k = outOf (visible s .rc 0 (fun _ => none) k) := rfl

theorem visible_dom {s : State} (hs : SInv s) {t : Nat} {lvl : Level} {b : Nat} {own : Key → Option SVer}
    (hc : ctxOf s t = some (lvl, b, own)) {k : Key} (hv : visible s lvl b own k ≠ none) : k ∈ s.dom := by
  have hcom : committed s k ≠ none → k ∈ s.dom := fun h => hs.histDom k fun e => h (committed_eq_none.mpr e)
  have hown : own k ≠ none → k ∈ s.dom := fun h => by
    by_cases ht : t = mainTx
    · rw [ht, ctxOf_main] at hc; cases hc; exact absurd rfl h
    · rw [ctxOf_of_ne ht] at hc
      obtain ⟨tx, hf, e⟩ := Option.map_eq_some_iff.mp hc
      cases e
      exact hs.ownDom tx (find_mem hf).1 k (Option.isSome_iff_ne_none.mpr h)
  cases lvl with
  | ru =>
    rcases List.mem_cons.mp (C02_RU s b own k).1 with e | e
    · exact hcom (e ▸ hv)
    · obtain ⟨tx, htx, e'⟩ := List.mem_map.mp e
      exact hs.ownDom tx htx k (Option.isSome_iff_ne_none.mpr (e' ▸ hv))
  | rc =>
    rcases newerS_cases (own k) (committed s k) with e | e
    · exact hown (e ▸ hv)
    · exact hcom (e ▸ hv)
  | rr | ser =>
    cases ho : own k with
    | some v => exact hown (ho ▸ nofun)
    | none =>
      rw [C02_RR_snapshot s _ rfl b own k ho] at hv
      exact hs.histDom k fun e => hv (by rw [e]; rfl)

/-- GetKeys inside a transaction (or outside) lists exactly the keys whose Get succeeds there,
    sorted and without duplicates. -/
theorem C02_keys_iff_get (s : State) (hs : SInv s) (t : Nat) (ks : List Key) (h : Spec.getKeys s t = .keys ks) :
    (∀ k, k ∈ ks ↔ ∃ c, Spec.get s t k = .val c) ∧ ks.Pairwise (· ≤ ·) ∧ ks.Nodup := by
  cases hc : ctxOf s t with
  | none => rw [getKeys_closed hc] at h; cases h
  | some ctx =>
    obtain ⟨lvl, b, own⟩ := ctx
    rw [getKeys_of_ctx hc] at h
    cases h
    refine ⟨fun k => ?_, sorted_sortKeys _, nodup_sortKeys _ (hs.domNodup.sublist List.filter_sublist)⟩
    rw [mem_sortKeys, List.mem_filter, get_of_ctx hc]
    have hval : hasValue (visible s lvl b own k) = true ↔ ∃ c, outOf (visible s lvl b own k) = .val c := by
      rw [hasValue_eq, outOf_eq]
      cases (visible s lvl b own k).bind (·.val) <;> simp
    exact (and_iff_right_of_imp fun hv => visible_dom hs hc fun e => nomatch e ▸ hv).trans hval

/-- non-vacuity: the project's own `TestDb_Tx` script, on the specification -/
example :
    (Spec.run {} [.set 0 "k" 3, .begin 1 .ru, .begin 2 .rc, .begin 3 .ser,
      .set 1 "k" 10, .set 2 "k" 11, .set 3 "k" 12,
      .get 0 "k", .get 1 "k", .commit 1, .get 2 "k", .gc, .commit 2, .get 0 "k", .get 3 "k", .commit 3]).2
    = [.ok, .ok, .ok, .ok, .ok, .ok, .ok, .val 3, .val 12, .ok, .val 10, .ok, .ok, .val 11, .val 12,
       .err .txSerialization] := rfl

end FsDb.C02
