import FsDb.Proofs.Refine
import FsDb.Proofs.SpecInv
import FsDb.Properties.C06
/-!
# C13 — A finished transaction is finished: later use fails and changes nothing

On the specification (to which the concrete model is tied by `C02_refinement` / `Refine.run_init`,
which includes the registry check of `store.Guarded` on the write path).
-/
namespace FsDb.C13
open FsDb Spec

/-- a transaction id that is not open (finished, or never begun) and is not the autocommit id -/
def Closed (s : State) (t : Nat) : Prop := t ≠ mainTx ∧ find s t = none

/-- Every further Get, GetKeys, Set (SetReader, Create), Delete or Commit through a finished or
    unknown transaction fails with ErrTxNotFound; a further Rollback is accepted; none of them
    changes the specification state. -/
theorem C13_late_use (s : State) (t : Nat) (h : Closed s t) (k : Key) (n : Nat) :
    Spec.step s (.get t k) = (s, .err .txNotFound) ∧
    Spec.step s (.keys t) = (s, .err .txNotFound) ∧
    Spec.step s (.set t k n) = (s, .err .txNotFound) ∧
    Spec.step s (.del t k) = (s, .err .txNotFound) ∧
    Spec.step s (.commit t) = (s, .err .txNotFound) ∧
    (Spec.step s (.rollback t)).2 = .ok ∧ (Spec.step s (.rollback t)).1 = s := by
  have hctx : ctxOf s t = none := ctxOf_eq_none.mpr h
  exact ⟨congrArg (s, ·) (get_closed hctx k), congrArg (s, ·) (getKeys_closed hctx), set_closed hctx k n,
    write_closed h.1 h.2 k none, commit_not_open (.inr h.2), rfl, close_eq_self h.2⟩

/-- Once Commit (successful or failed with a serialization error) or Rollback has returned, the
    transaction is closed. -/
theorem C13_closed_after_end (s : State) (t : Nat) (htm : t ≠ mainTx) :
    Closed (Spec.step s (.commit t)).1 t ∧ Closed (Spec.step s (.rollback t)).1 t := by
  refine ⟨⟨htm, ?_⟩, htm, find_close_self s t⟩
  show find (Spec.commit s t).1 t = none
  rcases commit_outcomes s t with ⟨h, e⟩ | ⟨tx, _, _, e | e | e⟩ <;> rw [e]
  · exact h.resolve_left htm
  all_goals exact find_close_self s t

/-- A closed transaction id stays closed under every later operation (Close/Open included) except a `begin` of
    the same id (ids are fresh uuids in the code; a Begin is accepted only for an id that is not open:
    `C13_begin_fresh`). -/
theorem C13_stays_closed (s : State) (t : Nat) (h : Closed s t) (op : Op)
    (hop : ∀ l, op ≠ .begin t l) : Closed (Spec.step s op).1 t := by
  obtain ⟨htm, hf⟩ := h
  have hclose : ∀ t', find (Spec.close s t') t = none := fun t' => by rw [find_close, hf, ite_self]
  refine ⟨htm, step_ind (P := fun s' => find s' t = none) (same := hf) (ticked := hf) (began := ?_)
    (wroteMain := fun _ _ => hf) (wroteTx := ?_) (closed := fun t' _ => hclose t')
    (published := fun t' _ _ _ => hclose t') (reopened := fun _ _ => rfl)⟩
  · intro t' l e _ _
    rw [find_of_append rfl, hf, if_neg fun (e' : t' = t) => hop l (e' ▸ e)]
    rfl
  · intro t' k val
    rw [find_of_map rfl (putOwn_id t' k _), hf]
    rfl

/-- Each Begin yields a transaction independent of all others: it is accepted only for an id that
    is not open, and the new transaction starts with no writes of its own. -/
theorem C13_begin_fresh (s : State) (t : Nat) (lvl : Level) (h : (Spec.step s (.begin t lvl)).2 = .ok) :
    find s t = none ∧ ∃ x, find (Spec.step s (.begin t lvl)).1 t = some x ∧ x.level = lvl ∧ ∀ k, x.own k = none := by
  rcases begin_cases s t lvl with e | ⟨_, hf, e⟩ <;> rw [show Spec.step s (.begin t lvl) = Spec.begin s t lvl from rfl, e] at h ⊢
  · cases h
  · exact ⟨hf, _, (find_of_append rfl t).trans (by rw [hf, if_pos rfl]; rfl), rfl, fun _ => rfl⟩

/-- On the concrete model, from a state related by `R` to a specification state in which `t` is closed: a late
    Set, Delete, Get or Commit answers ErrTxNotFound, and after the Set, the Delete and the Commit the concrete
    state is related to the *same* specification state (through `Refine.step`).  GetKeys and Rollback are not
    stated here, nor `R` after the Get. -/
theorem C13_late_use_concrete {c : Sys} {s : State} (h : R c s) (t : Nat) (hc : Closed s t) (k : Key) (n : Nat) :
    (c.step (.set t k n)).2 = .err .txNotFound ∧ R (c.step (.set t k n)).1 s ∧
    (c.step (.del t k)).2 = .err .txNotFound ∧ R (c.step (.del t k)).1 s ∧
    (c.step (.get t k)).2 = .err .txNotFound ∧ (c.step (.commit t)).2 = .err .txNotFound ∧
    R (c.step (.commit t)).1 s := by
  obtain ⟨l1, _, l3, l4, l5, _, _⟩ := C13_late_use s t hc k n
  have s1 := l3 ▸ Refine.step h (.set t k n) rfl
  have s2 := l4 ▸ Refine.step h (.del t k) rfl
  have s3 := l1 ▸ Refine.step h (.get t k) rfl
  have s4 := l5 ▸ Refine.step h (.commit t) rfl
  exact ⟨s1.1, s1.2, s2.1, s2.2, s3.1, s4.1, s4.2⟩

/-- **Late reads under concurrency.**  Under every schedule of the small-step model (`Model/Conc`):
    a Get through transaction `t` answers what the specification answers at a log position
    between its call and its return (`C06_get_linearizable`); when `t` is
    finished or unknown at that position the answer is ErrTxNotFound — whatever the other
    goroutines are doing, including a Commit of `t` itself that has passed its linearization point. -/
theorem C13_concurrent_read (acts : List Conc.Act) (i t : Nat) (k : Key) (o : Out)
    (hret : ((Conc.exec {} acts).thr i).pc = .ret o)
    (hop : ((Conc.exec {} acts).thr i).op = some (.get t k))
    (hc : Closed (Conc.pureAt (Conc.exec {} acts) ((Conc.exec {} acts).thr i).witAt) t) :
    o = .err .txNotFound :=
  (C06.C06_get_linearizable acts i t k o hret hop).2.2.trans (get_closed (ctxOf_eq_none.mpr hc) k)

/-- GetKeys, in contrapositive form: a GetKeys through `t` that returns a key list was not late — at its
    linearization point (`C06_getkeys_subset`) `t` was open or the autocommit id. -/
theorem C13_concurrent_keys (acts : List Conc.Act) (i t : Nat) (ks : List Key)
    (hret : ((Conc.exec {} acts).thr i).pc = .ret (.keys ks))
    (hop : ((Conc.exec {} acts).thr i).op = some (.keys t)) :
    ¬ Closed (Conc.pureAt (Conc.exec {} acts) ((Conc.exec {} acts).thr i).witAt) t := by
  intro hc
  obtain ⟨W, hW, _⟩ := C06.C06_getkeys_subset acts i t ks hret hop
  rw [getKeys_closed (ctxOf_eq_none.mpr hc)] at hW
  cases hW

/-- non-vacuity: the zombie-write history of corpus/seq_c13.txt on the specification -/
example :
    (Spec.run {} [.set 0 "k" 3, .begin 1 .ser, .set 1 "k" 12, .commit 1, .set 1 "k" 99, .del 1 "k",
      .begin 2 .ru, .get 2 "k", .rollback 1]).2
    = [.ok, .ok, .ok, .ok, .err .txNotFound, .err .txNotFound, .ok, .val 12, .ok] := rfl

end FsDb.C13
