import FsDb.Model.Dir
/-!
# C17 — Content files live in bounded sub-directories of the configured roots

Model: `Model/Dir`.  Left out: concurrency (operations are issued one at a time); the files and the names (a
directory is its number of entries and whether it is registered; directories are interchangeable); the
`math/rand` shuffle by which `store.Set` picks among the candidates — the directory written to is an input
(`c` in `St.put`), required to be a legal candidate.
-/
namespace FsDb.C17
open FsDb.Dir

/-- the invariant: no directory holds more than `max` entries, and a directory that is out of the
    registry is full -/
def RootOk (max : Nat) (r : Root) : Prop := ∀ d ∈ r, d.count ≤ max ∧ (d.active = false → max ≤ d.count)

/-- the invariant of the three `C17_bound_…` theorems: `RootOk`, at the configured limit, of every root -/
def Ok (s : St) : Prop := ∀ r ∈ s.roots, RootOk s.max r

/-- the first step of `getRoot` -/
def withActive (r : Root) : Root := if r.any (·.active) then r else r ++ [⟨0, true⟩]

theorem withActive_ok {max : Nat} {r : Root} (h : RootOk max r) : RootOk max (withActive r) := by
  unfold withActive
  split
  · exact h
  · exact List.forall_mem_append.mpr ⟨h, List.forall_mem_singleton.mpr ⟨Nat.zero_le _, nofun⟩⟩

theorem withActive_active (r : Root) : ∃ d ∈ withActive r, d.active = true := by
  unfold withActive
  split
  · next h => exact List.any_eq_true.mp h
  · exact ⟨⟨0, true⟩, List.mem_append_right _ (List.mem_singleton_self _), rfl⟩

theorem mem_getRoot {max : Nat} {r : Root} {d : D} :
    d ∈ getRoot max r ↔
      (∃ d0 ∈ withActive r, (if d0.active ∧ max ≤ d0.count then { d0 with active := false } else d0) = d) ∨
      (∃ d0 ∈ withActive r, d0.active ∧ max ≤ d0.count ∧ ⟨0, true⟩ = d) := by
  simp only [getRoot, withActive, List.mem_append, List.mem_map, List.mem_filter, Bool.and_eq_true,
    decide_eq_true_eq, and_assoc]

theorem getRoot_ok {max : Nat} {r : Root} (h : RootOk max r) : RootOk max (getRoot max r) := by
  intro d hd
  rcases mem_getRoot.mp hd with ⟨d0, hd0, rfl⟩ | ⟨_, _, _, _, rfl⟩
  · have h0 := withActive_ok h d0 hd0
    split
    · next hc => exact ⟨h0.1, fun _ => hc.2⟩
    · exact h0
  · exact ⟨Nat.zero_le _, nofun⟩

/-- **Every root always offers a directory to write to**: after `dir.Get`, every root has an
    active directory with fewer than `max` entries (for `max > 0`; the configuration clamps it to
    at least 100). -/
theorem C17_offer (max : Nat) (hmax : 0 < max) (r : Root) :
    ∃ d ∈ candidates (getRoot max r), d.count < max := by
  -- an active directory of `withActive r` is offered itself, or, if full, the fresh one added for it
  obtain ⟨d, hd, ha⟩ := withActive_active r
  by_cases hfull : max ≤ d.count
  · exact ⟨⟨0, true⟩, List.mem_filter.mpr ⟨mem_getRoot.mpr (.inr ⟨d, hd, ha, hfull, rfl⟩), rfl⟩, hmax⟩
  · exact ⟨d, List.mem_filter.mpr ⟨mem_getRoot.mpr (.inl ⟨d, hd, if_neg fun h => hfull h.2⟩), ha⟩,
      Nat.lt_of_not_le hfull⟩

/-- every directory `dir.Get` offers has room for a file -/
theorem candidates_below (max : Nat) (hmax : 0 < max) (r : Root) : ∀ d ∈ candidates (getRoot max r), d.count < max := by
  intro d hd
  obtain ⟨hm, ha⟩ := List.mem_filter.mp hd
  rcases mem_getRoot.mp hm with ⟨d0, _, rfl⟩ | ⟨_, _, _, _, rfl⟩
  · by_cases hc : d0.active ∧ max ≤ d0.count
    · rw [if_pos hc] at ha; cases ha
    · rw [if_neg hc] at ha ⊢
      exact Nat.lt_of_not_le fun hle => hc ⟨ha, hle⟩
  · exact hmax

theorem updateNth_ok (P : Root → Prop) {l l' : List Root} {i : Nat} {f : Root → Option Root}
    (hl : ∀ r ∈ l, P r) (hf : ∀ {r r'}, P r → f r = some r' → P r') (hu : updateNth l i f = some l') :
    ∀ r ∈ l', P r := by
  induction l generalizing i l' with
  | nil => cases hu
  | cons a t ih =>
    have ⟨ha, ht⟩ := List.forall_mem_cons.mp hl
    cases i with
    | zero =>
      obtain ⟨a', hfa, rfl⟩ := Option.map_eq_some_iff.mp hu
      exact List.forall_mem_cons.mpr ⟨hf ha hfa, ht⟩
    | succ j =>
      obtain ⟨t', ht', rfl⟩ := Option.map_eq_some_iff.mp hu
      exact List.forall_mem_cons.mpr ⟨ha, ih ht ht'⟩

theorem putAt_ok {max c : Nat} {r r' : Root} (h : RootOk max r) (hc : c < max) (hp : putAt r c = some r') :
    RootOk max r' := by
  fun_induction putAt r c generalizing r' with
  | case1 => cases hp
  | case2 d t c hcond =>
    -- the directory written to is active, so only its count matters
    have ha : d.active = true := (Bool.and_eq_true_iff.mp hcond).1
    cases hp
    exact List.forall_mem_cons.mpr
      ⟨⟨hc, fun hf => nomatch ha.symm.trans hf⟩, (List.forall_mem_cons.mp h).2⟩
  | case3 d t c _ ih =>
    obtain ⟨t', ht', rfl⟩ := Option.map_eq_some_iff.mp hp
    have ⟨hd, ht⟩ := List.forall_mem_cons.mp h
    exact List.forall_mem_cons.mpr ⟨hd, ih ht hc ht'⟩

theorem delAt_some {r r' : Root} {c : Nat} (h : delAt r c = some r') :
    ∃ l1 d l2, r = l1 ++ d :: l2 ∧ d.count = c ∧ r' = l1 ++ ⟨c - 1, true⟩ :: l2 := by
  fun_induction delAt r c generalizing r' with
  | case1 => cases h
  | case2 d t c hc =>
    exact ⟨[], d, t, rfl, eq_of_beq (Bool.and_eq_true_iff.mp hc).1, (Option.some.inj h).symm⟩
  | case3 d t c _ ih =>
    obtain ⟨t', ht, rfl⟩ := Option.map_eq_some_iff.mp h
    obtain ⟨l1, x, l2, rfl, hx, rfl⟩ := ih ht
    exact ⟨d :: l1, x, l2, rfl, hx, rfl⟩

theorem delAt_ok {max c : Nat} {r r' : Root} (h : RootOk max r) (hp : delAt r c = some r') : RootOk max r' := by
  obtain ⟨l1, d, l2, rfl, rfl, rfl⟩ := delAt_some hp
  rw [RootOk, List.forall_mem_append, List.forall_mem_cons] at h ⊢
  exact ⟨h.1, ⟨Nat.le_trans (Nat.sub_le ..) h.2.1.1, nofun⟩, h.2.2⟩

/-- **Bound**, writes.  `Ok` — no directory holds more than `max` entries, and one that is out of the registry is
    full — is kept by a `store.Set`: `dir.Get` with its rotation on every root, then the file goes to an active
    directory that had `c < max` entries (what `dir.Get` just returned: `candidates_below`).  Operations are
    issued one at a time. -/
theorem C17_bound_put (s s' : St) (root c : Nat) (hmax : 0 < s.max) (h : Ok s) (hc : c < s.max) (hp : s.put root c = some s') : Ok s' := by
  obtain ⟨rs, hu, rfl⟩ := Option.map_eq_some_iff.mp hp
  have hget : Ok s.get := List.forall_mem_map.mpr fun r hr => getRoot_ok (h r hr)
  exact updateNth_ok (RootOk s.max) hget (putAt_ok · hc) hu

/-- **Bound**, deletions: `Ok` is kept when a file is removed from a directory (which registers it again). -/
theorem C17_bound_del (s s' : St) (root c : Nat) (h : Ok s) (hp : s.del root c = some s') : Ok s' := by
  obtain ⟨rs, hu, rfl⟩ := Option.map_eq_some_iff.mp hp
  exact updateNth_ok (RootOk s.max) h delAt_ok hu

/-- **Bound**, reopening: `Ok` is kept when every directory found under the roots is registered as active (the
    counts do not change, and `Ok` asks nothing more of a registered directory). -/
theorem C17_bound_reopen (s : St) (h : Ok s) : Ok s.reopen :=
  List.forall_mem_map.mpr fun r hr => List.forall_mem_map.mpr fun d hd =>
    ⟨(h r hr d hd).1, nofun⟩

/-- **Reuse.**  A directory from which a content is deleted is registered again, with one entry fewer.  (Not
    stated: under `Ok` it is below `max` then and so, with `mem_getRoot`, a candidate of the next `dir.Get`.) -/
theorem C17_reuse (r r' : Root) (c : Nat) (hp : delAt r c = some r') : ∃ d ∈ r', d.count = c - 1 ∧ d.active = true := by
  obtain ⟨l1, _, l2, _, _, rfl⟩ := delAt_some hp
  exact ⟨⟨c - 1, true⟩, List.mem_append_right _ (List.mem_cons_self ..), rfl, rfl⟩

/-- non-vacuity: a root at its limit rotates -/
example : getRoot 2 [⟨2, true⟩, ⟨1, true⟩] = [⟨2, false⟩, ⟨1, true⟩, ⟨0, true⟩] := by decide

end FsDb.C17
