import FsDb.Generated.Tables
import FsDb.Model.Codec
/- Six numeric constants re-extracted from /repo: three of the codec, tied to the definitions of `Model/Codec`, and three
   of the configuration, tied to literals (`Model/Config` has tokens only, no numbers). -/
namespace FsDb.Tie
open FsDb.Generated

theorem tie_codec_constants :
    Tables.codec_uuidLen = Codec.uuidLen ∧ Tables.codec_timeLen = Codec.timeLen ∧
    Tables.codec_fileLenWithoutKey = Codec.fileLenWithoutKey := by decide

/-- `minDirCount`: the clamp of C20_valid is to 100; the harness values 50 / 0 are below it, 200 and the
    default are not (this is what `Config.belowMin` encodes). -/
theorem tie_config_constants :
    Tables.config_minDirCount = 100 ∧ Tables.config_defaultPort = 8888 ∧
    Tables.config_defaultDirCount = 1000000 ∧ 50 < Tables.config_minDirCount ∧
    Tables.config_minDirCount ≤ 200 ∧ Tables.config_minDirCount ≤ Tables.config_defaultDirCount := by decide

end FsDb.Tie
