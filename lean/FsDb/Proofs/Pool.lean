import FsDb.Model.Pool
import FsDb.Proofs.Lists
/-! Invariants of the worker-pool model: conservation of jobs, worker accounting, flusher coverage,
    what holds while stopped. -/
namespace FsDb.Pool

/-- One constructor for every branch of `step` that returns a state, with the branch's guards as premises
    (`step_iff`). -/
inductive Step (s : St) : Act → St → Prop
  | rerun : s.runM = true → Step s .run s
  | start : s.runM = false →
      Step s .run { s with runM := true, running := true, ch := [], idleW := s.nw, exitedW := 0 }
  | accept j : s.running = true → Step s (.send j) { s with accepted := j :: s.accepted, sel := j :: s.sel }
  | refuse j : s.running = false → Step s (.send j) s
  | selPush j : j ∈ s.sel → s.ch.length < s.cap →
      Step s (.selPush j) { s with sel := s.sel.erase j, ch := s.ch ++ [j] }
  | selDone j : j ∈ s.sel → s.running = false →
      Step s (.selDone j) { s with sel := s.sel.erase j, dropped := j :: s.dropped }
  | selTimeout j : j ∈ s.sel → Step s (.selTimeout j) { s with sel := s.sel.erase j, lazy := j :: s.lazy }
  | lazyPush j : j ∈ s.lazy → s.lazyM = true →
      Step s (.lazyPush j) { s with lazy := s.lazy.erase j, list := j :: s.list }
  | lazyStart j : j ∈ s.lazy → s.lazyM = false →
      Step s (.lazyPush j) { s with lazy := s.lazy.erase j, list := j :: s.list, lazyM := true, fpc := .loop }
  | flushExit : s.fpc = .loop → s.list = [] → Step s .flush { s with lazyM := false, fpc := .off }
  | flushPop j rest : s.fpc = .loop → s.list = j :: rest →
      Step s .flush { s with list := rest, fpc := .sending j }
  | flushSend j : s.fpc = .sending j → s.ch.length < s.cap →
      Step s .flush { s with ch := s.ch ++ [j], fpc := .loop }
  | flushDone j : s.fpc = .sending j → s.running = false →
      Step s .flushDone { s with lazyM := false, fpc := .off, dropped := j :: s.dropped }
  | take j rest : s.ch = j :: rest → 0 < s.idleW →
      Step s .take { s with ch := rest, idleW := s.idleW - 1, execing := j :: s.execing }
  | finish j : j ∈ s.execing →
      Step s (.finish j)
        { s with execing := s.execing.erase j, executed := j :: s.executed, idleW := s.idleW + 1 }
  | workerExit : 0 < s.idleW → s.running = false →
      Step s .workerExit { s with idleW := s.idleW - 1, exitedW := s.exitedW + 1 }
  | cancel : s.stop = .idle → s.runM = true → s.running = true →
      Step s .stop { s with running := false, stop := .cancelled }
  | waitSend : s.stop = .cancelled → s.sel = [] → s.lazy = [] → s.fpc = .off →
      Step s .stop { s with stop := .waitedSend }
  | waitRun : s.stop = .waitedSend → s.idleW = 0 → s.execing = [] →
      Step s .stop
        { s with dropped := s.ch ++ s.list ++ s.dropped, ch := [], list := [], runM := false, stop := .idle }

theorem Step.of_step {s s' : St} {a : Act} : step s a = some s' → Step s a s' := by
  fun_cases step s a <;> intro h <;> cases h
  next hr => exact .rerun hr
  next hr => exact .start (eq_false_of_ne_true hr)
  next j hr => exact .accept j hr
  next j hr => exact .refuse j (eq_false_of_ne_true hr)
  next j hg => exact .selPush j hg.1 hg.2
  next j hg => exact .selDone j hg.1 (Bool.not_eq_eq_eq_not.1 hg.2)
  next j hj => exact .selTimeout j hj
  next j hj hl => exact .lazyPush j hj hl
  next j hj hl => exact .lazyStart j hj (eq_false_of_ne_true hl)
  next hf hl => exact .flushExit hf hl
  next hf j rest hl => exact .flushPop j rest hf hl
  next j hf hc => exact .flushSend j hf hc
  next j hf hr => exact .flushDone j hf (Bool.not_eq_eq_eq_not.1 hr)
  next j rest hc hi => exact .take j rest hc hi
  next j hj => exact .finish j hj
  next hg => exact .workerExit hg.1 (Bool.not_eq_eq_eq_not.1 hg.2)
  next hst hg => exact .cancel hst hg.1 hg.2
  next hst hg => exact .waitSend hst hg.1 hg.2.1 hg.2.2
  next hst hg => exact .waitRun hst hg.1 hg.2

theorem step_iff {s s' : St} {a : Act} : step s a = some s' ↔ Step s a s' :=
  ⟨.of_step, fun h => by
    -- `induction`, not `cases`, here and below: `Step` is not recursive, and this way no index equations
    -- have to be substituted
    induction h <;> simp [step, *]⟩

theorem Step.isSome {s s' : St} {a : Act} (h : Step s a s') : (step s a).isSome = true := by
  rw [step_iff.2 h]; rfl

theorem lazyPush_isSome {s : St} {j : Nat} (h : j ∈ s.lazy) : (step s (.lazyPush j)).isSome = true := by
  cases hl : s.lazyM with
  | false => exact (Step.lazyStart j h hl).isSome
  | true => exact (Step.lazyPush j h hl).isSome

theorem flush_isSome_of_loop {s : St} (h : s.fpc = .loop) : (step s .flush).isSome = true := by
  cases hl : s.list with
  | nil => exact (Step.flushExit h hl).isSome
  | cons j rest => exact (Step.flushPop j rest h hl).isSome

theorem run_induction {P : St → Prop} (hP : ∀ {s a s'}, P s → Step s a s' → P s') {s : St} (h : P s)
    (acts : List Act) : P (run s acts) := by
  induction acts generalizing s with
  | nil => exact h
  | cons a acts ih =>
    dsimp only [run]
    cases hs : step s a with
    | none => exact ih h
    | some s' => exact ih (hP h (.of_step hs))

structure Inv (s : St) : Prop where
  cons : ∀ j, s.accepted.count j = (places s).count j
  workers : s.runM = true → s.idleW + s.execing.length + s.exitedW = s.nw
  flusher : s.lazyM = true ↔ s.fpc ≠ .off
  /-- The repaired hand-off: the flusher gives up `lazySendM` in the very step in which it finds the list empty. -/
  covers : s.running = true → s.list ≠ [] → s.lazyM = true
  runOf : s.running = true → s.runM = true ∧ s.stop = .idle
  stopOf : s.stop ≠ .idle → s.running = false ∧ s.runM = true
  /-- `sendWg.Wait` has returned: no Send is in flight and no flusher runs (and none can start: the context is
      cancelled). -/
  waited : s.stop = .waitedSend → s.sel = [] ∧ s.lazy = [] ∧ s.fpc = .off
  /-- What `Run` relies on when it installs a fresh channel and a fresh set of workers: nothing is left over from
      the cycle before. -/
  stopped : s.runM = false → s.idleW = 0 ∧ s.execing = [] ∧ s.sel = [] ∧ s.lazy = [] ∧ s.fpc = .off ∧
              s.ch = [] ∧ s.list = []

theorem Inv.init (nw : Nat) : Inv (init nw) where
  cons _ := by simp only [Pool.init, places, hand, List.append_nil]
  workers := nofun
  flusher := ⟨nofun, fun h => absurd rfl h⟩
  covers := nofun
  runOf := nofun
  stopOf h := absurd rfl h
  waited := nofun
  stopped _ := ⟨rfl, rfl, rfl, rfl, rfl, rfl, rfl⟩

section
variable {s : St} (h : Inv s) (hf : s.runM = false)
include h hf
theorem Inv.stopped_idleW : s.idleW = 0 := (h.stopped hf).1
theorem Inv.stopped_execing : s.execing = [] := (h.stopped hf).2.1
theorem Inv.stopped_sel : s.sel = [] := (h.stopped hf).2.2.1
theorem Inv.stopped_lazy : s.lazy = [] := (h.stopped hf).2.2.2.1
theorem Inv.stopped_fpc : s.fpc = .off := (h.stopped hf).2.2.2.2.1
theorem Inv.stopped_ch : s.ch = [] := (h.stopped hf).2.2.2.2.2.1
theorem Inv.stopped_list : s.list = [] := (h.stopped hf).2.2.2.2.2.2
end

theorem hand_count_off (j : Nat) : (hand .off).count j = 0 := rfl
theorem hand_count_loop (j : Nat) : (hand .loop).count j = 0 := rfl

theorem Inv.step {s s' : St} {a : Act} (h : Inv s) (hs : Step s a s') : Inv s' where
  cons k := by
    -- a transition moves a job from one place to another; `Send` adds one to `accepted` too, `Run` replaces a channel
    -- that is empty, Stop's last step empties the channel and the list into `dropped`
    have hc := h.cons k
    simp only [places, List.count_append] at hc ⊢
    induction hs with
    | start hr => simp only [hc, h.stopped_ch hr]
    | accept j => simp +arith only [hc, List.count_cons]
    | selPush j hj | selDone j hj | selTimeout j hj | lazyPush j hj | finish j hj =>
      simp +arith only [hc, List.count_append, List.count_cons, List.count_nil, count_erase_mem hj k]
    | lazyStart j hj hl =>
      have hf : s.fpc = .off := Decidable.by_contra fun hf => nomatch hl.symm.trans (h.flusher.2 hf)
      simp +arith only [hc, hf, hand, List.count_cons, count_erase_mem hj k]
    | flushExit hf => simp only [hc, hf, hand]
    | flushPop j rest hf hl =>
      simp +arith only [hc, hf, hl, hand, List.count_cons, List.count_nil]
    | flushSend j hf | flushDone j hf | take j rest hf =>
      simp +arith only [hc, hf, hand, List.count_append, List.count_cons, List.count_nil]
    | waitRun => simp +arith only [hc, List.count_append, List.count_nil]
    | _ => exact hc
  workers hm := by
    induction hs with
    | start hr => rw [h.stopped_execing hr]; rfl
    | take _ _ _ hi =>
      obtain ⟨n, hn⟩ := Nat.exists_eq_add_one.2 hi
      simp +arith only [← h.workers hm, hn, List.length_cons, Nat.add_sub_cancel]
    | finish _ hj => simp +arith only [← h.workers hm, length_erase_mem hj]
    | workerExit hi =>
      obtain ⟨n, hn⟩ := Nat.exists_eq_add_one.2 hi
      simp +arith only [← h.workers hm, hn, Nat.add_sub_cancel]
    | waitRun => cases hm
    | _ => exact h.workers hm
  flusher := by
    induction hs with
    | lazyStart => exact ⟨fun _ => nofun, fun _ => rfl⟩
    | flushExit | flushDone => exact ⟨nofun, fun hne => absurd rfl hne⟩
    | flushPop _ _ hf | flushSend _ hf => exact ⟨fun _ => nofun, fun _ => h.flusher.2 (hf ▸ nofun)⟩
    | _ => exact h.flusher
  covers hr' hne := by
    induction hs with
    | start hr => exact absurd (h.stopped_list hr) hne
    | lazyPush _ _ hl => exact hl
    | lazyStart => rfl
    | flushExit _ hl => exact absurd hl hne
    | flushPop _ _ hf => exact h.flusher.2 (hf ▸ nofun)
    | flushDone _ _ hr => exact nomatch hr.symm.trans hr'
    | cancel => cases hr'
    | waitRun hst => exact nomatch (h.stopOf (hst ▸ nofun)).1.symm.trans hr'
    | _ => exact h.covers hr' hne
  runOf hr' := by
    induction hs with
    | start hr => exact ⟨rfl, Decidable.by_contra fun hne => nomatch hr.symm.trans (h.stopOf hne).2⟩
    | cancel => cases hr'
    | waitSend hst | waitRun hst => exact nomatch (h.stopOf (hst ▸ nofun)).1.symm.trans hr'
    | _ => exact h.runOf hr'
  stopOf hne := by
    induction hs with
    | start hr => exact nomatch hr.symm.trans (h.stopOf hne).2
    | cancel _ hm => exact ⟨rfl, hm⟩
    | waitSend hst => exact h.stopOf (hst ▸ nofun)
    | waitRun => exact absurd rfl hne
    | _ => exact h.stopOf hne
  waited hw := by
    induction hs with
    | waitSend _ h1 h2 h3 => exact ⟨h1, h2, h3⟩
    | cancel | waitRun => cases hw
    | accept _ hr => exact nomatch (h.runOf hr).2.symm.trans hw
    | selPush _ hj | selDone _ hj | selTimeout _ hj => exact nomatch (h.waited hw).1 ▸ hj
    | lazyPush _ hj | lazyStart _ hj => exact nomatch (h.waited hw).2.1 ▸ hj
    | flushExit hf | flushPop _ _ hf | flushSend _ hf | flushDone _ hf =>
      exact nomatch hf.symm.trans (h.waited hw).2.2
    | _ => exact h.waited hw
  stopped hf := by
    induction hs with
    | start => cases hf
    | waitRun hst hi he =>
      obtain ⟨hsel, hlz, hfp⟩ := h.waited hst
      exact ⟨hi, he, hsel, hlz, hfp, rfl, rfl⟩
    | accept _ hr => exact nomatch (h.runOf hr).1.symm.trans hf
    | cancel _ hm => exact nomatch hm.symm.trans hf
    | selPush _ hj | selDone _ hj | selTimeout _ hj => exact nomatch h.stopped_sel hf ▸ hj
    | lazyPush _ hj | lazyStart _ hj => exact nomatch h.stopped_lazy hf ▸ hj
    | flushExit hx | flushPop _ _ hx | flushSend _ hx | flushDone _ hx =>
      exact nomatch hx.symm.trans (h.stopped_fpc hf)
    | take _ _ _ hi | workerExit hi => exact absurd hi (h.stopped_idleW hf ▸ Nat.lt_irrefl 0)
    | finish _ hj => exact nomatch h.stopped_execing hf ▸ hj
    | _ => exact h.stopped hf

theorem Inv.run {s : St} (h : Inv s) (acts : List Act) : Inv (run s acts) :=
  run_induction Inv.step h acts

structure Sized (nw : Nat) (s : St) : Prop where
  nwEq : s.nw = nw
  capEq : s.cap = 2 * nw
  noExit : s.running = true → s.exitedW = 0

theorem Sized.init (nw : Nat) : Sized nw (init nw) := ⟨rfl, rfl, nofun⟩

theorem Sized.step {nw : Nat} {s s' : St} {a : Act} (h : Sized nw s) (hs : Step s a s') : Sized nw s' := by
  induction hs with
  | start => exact { h with noExit := fun _ => rfl }
  | workerExit _ hr => exact { h with noExit := fun hr' => nomatch hr.symm.trans hr' }
  | cancel => exact { h with noExit := nofun }
  | _ => exact ⟨h.nwEq, h.capEq, h.noExit⟩

theorem Sized.run {nw : Nat} {s : St} (h : Sized nw s) (acts : List Act) : Sized nw (run s acts) :=
  run_induction Sized.step h acts

end FsDb.Pool
