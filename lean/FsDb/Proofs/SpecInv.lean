import FsDb.Spec.Iso
import FsDb.Proofs.Lists
/-! The specification by itself: its operations in normal form, the counter advance `tick`, the case rule for its
    steps (`step_ind`), its invariant `SInv`, what a step does to the histories (`Grew`), runs (`run_append` …). -/
namespace FsDb.Spec

theorem find_mem {s : State} {t : Nat} {x : STx} (h : find s t = some x) : x ∈ s.open_ ∧ x.id = t :=
  ⟨List.mem_of_find?_eq_some h, by simpa using List.find?_some h⟩

theorem find_eq_none {s : State} {t : Nat} : find s t = none ↔ ∀ x ∈ s.open_, x.id ≠ t :=
  List.find?_eq_none.trans (forall₂_congr fun _ _ => not_congr decide_eq_true_iff)

theorem find_of_map {s s' : State} {g : STx → STx} (ho : s'.open_ = s.open_.map g) (hg : ∀ x, (g x).id = x.id)
    (t : Nat) : find s' t = (find s t).map g := by
  unfold find
  rw [ho, List.find?_map]
  congr 2
  funext x
  simp [hg]

theorem find_of_append {s s' : State} {x : STx} (ho : s'.open_ = s.open_ ++ [x]) (t : Nat) :
    find s' t = (find s t).or (if x.id = t then some x else none) := by
  unfold find
  rw [ho, List.find?_append]
  by_cases hx : x.id = t <;> simp [hx]

theorem find_close (s : State) (t t' : Nat) : find (close s t') t = if t = t' then none else find s t := by
  split
  · next e => exact e ▸ List.find?_eq_none.mpr fun x hx => by simpa using (List.mem_filter.mp hx).2
  · next hne => exact find?_filter_ne (·.id) s.open_ hne

theorem find_close_self (s : State) (t : Nat) : find (close s t) t = none :=
  (find_close s t t).trans (if_pos rfl)

theorem close_eq_self {s : State} {t : Nat} (h : find s t = none) : close s t = s := by
  unfold close
  rw [List.filter_eq_self.mpr]
  intro x hx
  simpa using find_eq_none.mp h x hx

theorem ctxOf_main (s : State) : ctxOf s mainTx = some (.rc, 0, fun _ => none) := rfl

theorem ctxOf_of_ne {s : State} {t : Nat} (ht : t ≠ mainTx) :
    ctxOf s t = (find s t).map (fun tx => (tx.level, tx.beginStamp, tx.own)) := if_neg ht

theorem ctxOf_eq_none {s : State} {t : Nat} : ctxOf s t = none ↔ t ≠ mainTx ∧ find s t = none := by
  by_cases ht : t = mainTx
  · subst ht; exact ⟨nofun, fun h => absurd rfl h.1⟩
  · rw [ctxOf_of_ne ht, Option.map_eq_none_iff]; exact (and_iff_right ht).symm

theorem outOf_eq (v : Option SVer) : outOf v = match v.bind (·.val) with
    | some c => .val c
    | none => .err .notFound := by
  rcases v with _ | ⟨_, _ | _⟩ <;> rfl

theorem hasValue_eq (v : Option SVer) : hasValue v = (v.bind (·.val)).isSome := by
  rcases v with _ | ⟨_, _ | _⟩ <;> rfl

theorem newerS_eq : newerS = newerBy SVer.stamp := by
  funext a b; cases a <;> cases b <;> rfl

theorem newerS_cases (a b : Option SVer) : newerS a b = a ∨ newerS a b = b :=
  newerS_eq ▸ newerBy_cases a b

@[simp] theorem addDom_hist (s : State) (k : Key) : (addDom s k).hist = s.hist := by unfold addDom; split <;> rfl
theorem addDom_dom (s : State) (k : Key) : (addDom s k).dom = if k ∈ s.dom then s.dom else s.dom ++ [k] := by
  unfold addDom; split <;> rfl

theorem mem_addDom {s : State} {k k' : Key} : k' ∈ (addDom s k).dom ↔ k' ∈ s.dom ∨ k' = k :=
  addDom_dom s k ▸ mem_append_new

theorem addDom_nodup {s : State} (h : s.dom.Nodup) (k : Key) : (addDom s k).dom.Nodup :=
  addDom_dom s k ▸ nodup_append_new h k

theorem addDom_mk (s : State) (c : Nat) (h : Key → List SVer) (o : List STx) (k : Key) :
    addDom { clock := c, hist := h, open_ := o, dom := s.dom } k =
      { clock := c, hist := h, open_ := o, dom := (addDom s k).dom } := by
  unfold addDom
  split <;> rfl

/-- what `write s t k _` does to every open transaction -/
def putOwn (t : Nat) (k : Key) (v : SVer) (tx : STx) : STx :=
  { tx with own := fun k' => if tx.id = t ∧ k' = k then some v else tx.own k' }

section putOwn
variable (t : Nat) (k : Key) (v : SVer) (tx : STx)
theorem putOwn_id : (putOwn t k v tx).id = tx.id := rfl
theorem putOwn_level : (putOwn t k v tx).level = tx.level := rfl
theorem putOwn_beginStamp : (putOwn t k v tx).beginStamp = tx.beginStamp := rfl
theorem putOwn_own (k' : Key) : (putOwn t k v tx).own k' = if tx.id = t ∧ k' = k then some v else tx.own k' := rfl

/-- the form in which `write` applies it -/
theorem putOwn_eq :
    (if tx.id = t then { tx with own := fun k' => if k' = k then some v else tx.own k' } else tx) = putOwn t k v tx := by
  unfold putOwn
  split
  · next h => simp only [h, true_and]
  · next h => simp only [h, false_and, if_false]
end putOwn

theorem write_closed {s : State} {t : Nat} (ht : t ≠ mainTx) (hf : find s t = none) (k : Key) (val : Option Nat) :
    write s t k val = (s, .err .txNotFound) := by
  simp only [write, ht, if_false, hf]

theorem write_main (s : State) (k : Key) (val : Option Nat) : write s mainTx k val =
    ({ s with clock := s.clock + 1, dom := (addDom s k).dom,
              hist := fun k' => if k' = k then s.hist k ++ [⟨s.clock + 1, val⟩] else s.hist k' }, .ok) :=
  congrArg (·, Out.ok) (addDom_mk s _ _ _ k)

theorem write_open {s : State} {t : Nat} {x : STx} (ht : t ≠ mainTx) (hf : find s t = some x) (k : Key)
    (val : Option Nat) : write s t k val =
    ({ s with clock := s.clock + 1, dom := (addDom s k).dom,
              open_ := s.open_.map (putOwn t k ⟨s.clock + 1, val⟩) }, .ok) := by
  simp only [write, ht, if_false, hf, putOwn_eq]
  exact congrArg (·, Out.ok) (addDom_mk s _ _ _ k)

theorem get_closed {s : State} {t : Nat} (h : ctxOf s t = none) (k : Key) : get s t k = .err .txNotFound := by
  rw [get, h]

theorem get_of_ctx {s : State} {t : Nat} {lvl : Level} {b : Nat} {own : Key → Option SVer}
    (h : ctxOf s t = some (lvl, b, own)) (k : Key) : get s t k = outOf (visible s lvl b own k) := by
  rw [get, h]

theorem getKeys_closed {s : State} {t : Nat} (h : ctxOf s t = none) : getKeys s t = .err .txNotFound := by
  rw [getKeys, h]

theorem getKeys_of_ctx {s : State} {t : Nat} {lvl : Level} {b : Nat} {own : Key → Option SVer}
    (h : ctxOf s t = some (lvl, b, own)) :
    getKeys s t = .keys (Sys.sortKeys (s.dom.filter fun k => hasValue (visible s lvl b own k))) := by
  rw [getKeys, h]

theorem set_closed {s : State} {t : Nat} (h : ctxOf s t = none) (k : Key) (c : Nat) :
    set s t k c = (s, .err .txNotFound) := by
  rw [set, h]; rfl

theorem set_of_ctx {s : State} {t : Nat} {x : Level × Nat × (Key → Option SVer)} (h : ctxOf s t = some x) (k : Key)
    (c : Nat) : set s t k c = if k = "" then (s, .err .emptyKey) else write s t k (some c) := by
  rw [set, h]; rfl

theorem begin_cases (s : State) (t : Nat) (lvl : Level) : begin s t lvl = (s, .bad) ∨
    t ≠ mainTx ∧ find s t = none ∧ begin s t lvl =
      ({ s with clock := s.clock + 1, open_ := s.open_ ++ [⟨t, lvl, s.clock + 1, fun _ => none⟩] }, .ok) := by
  unfold begin
  split
  · exact .inl rfl
  · rename_i h
    exact .inr ⟨fun e => h (.inl e), Option.not_isSome_iff_eq_none.mp fun e => h (.inr e), rfl⟩

theorem commit_not_open {s : State} {t : Nat} (h : t = mainTx ∨ find s t = none) :
    commit s t = (s, .err .txNotFound) := by
  unfold commit
  rw [show (if t = mainTx then none else find s t) = none by rcases h with h | h <;> simp [h]]

theorem commit_open {s : State} {t : Nat} {tx : STx} (ht : t ≠ mainTx) (hf : find s t = some tx) : commit s t =
    if conflictS (close s t) tx then (close s t, .err .txSerialization)
    else if (writtenS s.dom tx.own).isEmpty then (close s t, .ok)
    else (publishS (close s t) tx, .ok) := by
  simp only [commit, ht, if_false, hf]
  rfl

theorem commit_cases {s : State} {t : Nat} {tx : STx} (ht : t ≠ mainTx) (hf : find s t = some tx) :
    conflictS (close s t) tx = true ∧ commit s t = (close s t, .err .txSerialization) ∨
    conflictS (close s t) tx = false ∧
      (writtenS s.dom tx.own = [] ∧ commit s t = (close s t, .ok) ∨
       writtenS s.dom tx.own ≠ [] ∧ commit s t = (publishS (close s t) tx, .ok)) := by
  rw [commit_open ht hf]
  cases conflictS (close s t) tx with
  | true => exact .inl ⟨rfl, rfl⟩
  | false =>
    cases writtenS s.dom tx.own with
    | nil => exact .inr ⟨rfl, .inl ⟨rfl, rfl⟩⟩
    | cons a l => exact .inr ⟨rfl, .inr ⟨nofun, rfl⟩⟩

/-- every outcome of `commit`, the refusal included, for proofs that do not ask why -/
theorem commit_outcomes (s : State) (t : Nat) :
    (t = mainTx ∨ find s t = none) ∧ commit s t = (s, .err .txNotFound) ∨
    ∃ tx, t ≠ mainTx ∧ find s t = some tx ∧
      (commit s t = (close s t, .err .txSerialization) ∨ commit s t = (close s t, .ok) ∨
       commit s t = (publishS (close s t) tx, .ok)) := by
  by_cases h : t = mainTx ∨ find s t = none
  · exact .inl ⟨h, commit_not_open h⟩
  obtain ⟨htm, hf⟩ := not_or.mp h
  obtain ⟨tx, hf⟩ := Option.ne_none_iff_exists'.mp hf
  refine .inr ⟨tx, htm, hf, ?_⟩
  rcases commit_cases htm hf with ⟨_, e⟩ | ⟨_, ⟨_, e⟩ | ⟨_, e⟩⟩
  · exact .inl e
  · exact .inr (.inl e)
  · exact .inr (.inr e)

theorem publish_hist (s : State) (tx : STx) (k : Key) : (publishS s tx).hist k = match tx.own k with
    | some v => if k ∈ writtenS s.dom tx.own then s.hist k ++ [⟨s.clock + 1, v.val⟩] else s.hist k
    | none => s.hist k := rfl

theorem committed_congr {s s' : State} {k : Key} (h : s'.hist k = s.hist k) : committed s' k = committed s k :=
  congrArg List.getLast? h

theorem committed_concat {s s' : State} {k : Key} {v : SVer} (h : s'.hist k = s.hist k ++ [v]) :
    committed s' k = some v :=
  (congrArg List.getLast? h).trans List.getLast?_concat

theorem committed_eq_none {s : State} {k : Key} : committed s k = none ↔ s.hist k = [] := List.getLast?_eq_none_iff

theorem committed_mem {s : State} {k : Key} {v : SVer} (h : committed s k = some v) : v ∈ s.hist k :=
  List.mem_of_getLast? h

theorem committed_write_main (s : State) (k : Key) (val : Option Nat) (k' : Key) :
    committed (write s mainTx k val).1 k' = if k' = k then some ⟨s.clock + 1, val⟩ else committed s k' := by
  rw [write_main]
  by_cases e : k' = k
  · subst e; rw [if_pos rfl]; exact committed_concat (s := s) (if_pos rfl)
  · rw [if_neg e]; exact committed_congr (s := s) (if_neg e)

theorem committed_publish (s : State) (tx : STx) (k : Key) : committed (publishS s tx) k = match tx.own k with
    | some v => if k ∈ writtenS s.dom tx.own then some ⟨s.clock + 1, v.val⟩ else committed s k
    | none => committed s k := by
  unfold committed
  rw [publish_hist]
  split
  · split
    · exact List.getLast?_concat ..
    · rfl
  · rfl

theorem gcStep_eq (s : State) :
    (step s .gc).1 = { s with clock := if s.open_.isEmpty then s.clock + 1 else s.clock } := by
  show (if s.open_.isEmpty then { s with clock := s.clock + 1 } else s) = _
  split <;> rfl

/-- the specification's counterpart of `Sys.tick` -/
def tick (s : State) (n : Nat) : State := { s with clock := max s.clock n }

theorem tick_self (s : State) : tick s s.clock = s := by
  cases s; simp [tick]

theorem tick_step_gc (s : State) {n : Nat} (hn : s.open_.isEmpty → s.clock + 1 ≤ n) :
    tick (step s .gc).1 n = tick s n := by
  rw [gcStep_eq]
  simp only [tick]
  congr 1
  split
  · next he => have := hn he; omega
  · rfl

/-- The state changes of the specification: what holds after each of them holds after every step. -/
theorem step_ind {P : State → Prop} {s : State} {op : Op} (same : P s)
    (ticked : P { s with clock := s.clock + 1 })
    (began : ∀ t l, op = .begin t l → t ≠ mainTx → find s t = none →
      P { s with clock := s.clock + 1, open_ := s.open_ ++ [⟨t, l, s.clock + 1, fun _ => none⟩] })
    (wroteMain : ∀ k val, P { s with clock := s.clock + 1, dom := (addDom s k).dom,
                                     hist := fun k' => if k' = k then s.hist k ++ [⟨s.clock + 1, val⟩] else s.hist k' })
    (wroteTx : ∀ t k val, P { s with clock := s.clock + 1, dom := (addDom s k).dom,
                                     open_ := s.open_.map (putOwn t k ⟨s.clock + 1, val⟩) })
    (closed : ∀ t, op = .commit t ∨ op = .rollback t → P (close s t))
    (published : ∀ t tx, op = .commit t → find s t = some tx → P (publishS (close s t) tx))
    (reopened : ∀ f, op = .reopen f → P (reopen s f).1) : P (step s op).1 := by
  have hw : ∀ t k val, P (write s t k val).1 := by
    intro t k val
    by_cases ht : t = mainTx
    · rw [ht, write_main]; exact wroteMain k val
    · cases hf : find s t with
      | none => rw [write_closed ht hf]; exact same
      | some x => rw [write_open ht hf]; exact wroteTx t k val
  cases op with
  | begin t l =>
    show P (begin s t l).1
    rcases begin_cases s t l with e | ⟨ht, hf, e⟩ <;> rw [e]
    · exact same
    · exact began t l rfl ht hf
  | set t k c =>
    show P (set s t k c).1
    cases hc : ctxOf s t with
    | none => rw [set_closed hc]; exact same
    | some x =>
      rw [set_of_ctx hc]
      split
      · exact same
      · exact hw t k _
  | del t k => exact hw t k none
  | commit t =>
    show P (commit s t).1
    rcases commit_outcomes s t with ⟨_, e⟩ | ⟨tx, _, hf, e | e | e⟩ <;> rw [e]
    · exact same
    · exact closed t (.inl rfl)
    · exact closed t (.inl rfl)
    · exact published t tx rfl hf
  | rollback t => exact closed t (.inr rfl)
  | gc =>
    rw [gcStep_eq]
    split
    · exact ticked
    · exact same
  | reopen f => exact reopened f rfl
  | get _ _ | keys _ | drain | tree => exact same

structure SInv (s : State) : Prop where
  stampsLe : ∀ k, ∀ v ∈ s.hist k, v.stamp ≤ s.clock
  histSorted : ∀ k, (s.hist k).Pairwise (fun a b => a.stamp < b.stamp)
  openIds : s.open_.Pairwise (fun a b => a.id ≠ b.id)
  openMain : ∀ t ∈ s.open_, t.id ≠ mainTx
  beginLe : ∀ t ∈ s.open_, t.beginStamp ≤ s.clock
  domNodup : s.dom.Nodup
  histDom : ∀ k, s.hist k ≠ [] → k ∈ s.dom
  ownDom : ∀ t ∈ s.open_, ∀ k, (t.own k).isSome → k ∈ s.dom

theorem SInv.init : SInv ({} : State) := by
  constructor <;> simp

theorem SInv.close {s : State} (h : SInv s) (t : Nat) : SInv (Spec.close s t) :=
  { h with openIds := h.openIds.filter _
           openMain := fun x hx => h.openMain x (mem_of_filter hx)
           beginLe := fun x hx => h.beginLe x (mem_of_filter hx)
           ownDom := fun x hx => h.ownDom x (mem_of_filter hx) }

/-- what a step does to the histories: each stays, or gains one version with the next stamp; then the key is in `dom`,
    where it may be new (`SInv.histDom` in `SInv.grow`) -/
def Grew (s s' : State) : Prop :=
  s.clock ≤ s'.clock ∧ ∀ k, s'.hist k = s.hist k ∨ k ∈ s'.dom ∧ ∃ val, s'.hist k = s.hist k ++ [⟨s.clock + 1, val⟩]

theorem Grew.keep {s s' : State} (hc : s.clock ≤ s'.clock) (hh : s'.hist = s.hist) : Grew s s' :=
  ⟨hc, fun k => .inl (congrFun hh k)⟩

theorem publish_grew (s : State) (tx : STx) : Grew s (publishS s tx) := by
  refine ⟨Nat.le_succ _, fun k => ?_⟩
  rw [publish_hist]
  split
  · split
    · rename_i hk; exact .inr ⟨mem_of_filter hk, _, rfl⟩
    · exact .inl rfl
  · exact .inl rfl

theorem push_grew (s : State) (k : Key) (val : Option Nat) :
    Grew s { s with clock := s.clock + 1, dom := (addDom s k).dom,
                    hist := fun k' => if k' = k then s.hist k ++ [⟨s.clock + 1, val⟩] else s.hist k' } := by
  refine ⟨Nat.le_succ _, fun k' => ?_⟩
  by_cases e : k' = k
  · subst e; exact .inr ⟨mem_addDom.mpr (.inr rfl), val, if_pos rfl⟩
  · exact .inl (if_neg e)

theorem SInv.grow {s s' : State} (h : SInv s) (hc : s'.clock = s.clock + 1) (ho : s'.open_ = s.open_)
    (hd : ∀ k ∈ s.dom, k ∈ s'.dom) (hn : s'.dom.Nodup) (hg : Grew s s') : SInv s' := by
  have hle : ∀ {n}, n ≤ s.clock → n ≤ s'.clock := fun hn => hc ▸ Nat.le_succ_of_le hn
  refine ⟨fun k v hv => ?_, fun k => ?_, ho ▸ h.openIds, ho ▸ h.openMain, fun x hx => hle (h.beginLe x (ho ▸ hx)), hn,
    fun k hk => ?_, fun x hx k hk => hd k (h.ownDom x (ho ▸ hx) k hk)⟩
  · rcases hg.2 k with e | ⟨_, val, e⟩ <;> rw [e] at hv
    · exact hle (h.stampsLe k v hv)
    · rcases List.mem_append.mp hv with hv | hv
      · exact hle (h.stampsLe k v hv)
      · rw [List.mem_singleton.mp hv, hc]; exact Nat.le_refl _
  · rcases hg.2 k with e | ⟨_, val, e⟩ <;> rw [e]
    · exact h.histSorted k
    · exact pairwise_concat.mpr ⟨h.histSorted k, fun a ha => Nat.lt_succ_of_le (h.stampsLe k a ha)⟩
  · rcases hg.2 k with e | ⟨hk', _⟩
    · exact hd k (h.histDom k (e ▸ hk))
    · exact hk'

theorem SInv.publish {s : State} (h : SInv s) (tx : STx) : SInv (publishS s tx) :=
  h.grow rfl rfl (fun _ hk => hk) h.domNodup (publish_grew s tx)

theorem SInv.reopen {s : State} (h : SInv s) (f : Bool) : SInv (Spec.reopen s f).1 := by
  refine { h with stampsLe := fun k v (hv : v ∈ s.hist k) => ?_
                  openIds := .nil, openMain := List.forall_mem_nil _, beginLe := List.forall_mem_nil _,
                  ownDom := List.forall_mem_nil _ }
  -- `v` is at most the last version of `k`, which is among those the new clock is the maximum of
  obtain ⟨w, hw⟩ : ∃ w, committed s k = some w :=
    Option.ne_none_iff_exists'.mp fun e => List.ne_nil_of_mem hv (committed_eq_none.mp e)
  have top : ∀ n ∈ s.dom.filterMap (fun k => (committed s k).map (·.stamp)), n ≤ (Spec.reopen s f).1.clock := fun n hn =>
    Nat.le_trans (((foldl_max_le_iff id _ 1 _).mp (Nat.le_refl _)).2 n hn) (Nat.le_max_right _ _)
  exact Nat.le_trans (le_getLast? (h.histSorted k) hw v hv)
    (top _ (List.mem_filterMap.mpr ⟨k, h.histDom k (List.ne_nil_of_mem hv), by rw [hw]; rfl⟩))

theorem SInv.step {s : State} (h : SInv s) (op : Op) : SInv (Spec.step s op).1 := by
  have old : ∀ k, ∀ v ∈ s.hist k, v.stamp ≤ s.clock + 1 := fun k v hv => Nat.le_succ_of_le (h.stampsLe k v hv)
  refine step_ind (same := h) (ticked := h.grow rfl rfl (fun _ hk => hk) h.domNodup (.keep (Nat.le_succ _) rfl))
    (began := ?_) (wroteMain := ?_) (wroteTx := ?_) (closed := fun t _ => h.close t)
    (published := fun t tx _ _ => (h.close t).publish tx) (reopened := fun f _ => h.reopen f)
  · intro t l _ ht hf
    refine ⟨old, h.histSorted, ?_, ?_, ?_, h.domNodup, h.histDom, ?_⟩
    · exact pairwise_concat.mpr ⟨h.openIds, find_eq_none.mp hf⟩
    · exact List.forall_mem_append.mpr ⟨h.openMain, List.forall_mem_singleton.mpr ht⟩
    · exact List.forall_mem_append.mpr ⟨fun x hx => Nat.le_succ_of_le (h.beginLe x hx),
        List.forall_mem_singleton.mpr (Nat.le_refl _)⟩
    · exact List.forall_mem_append.mpr ⟨h.ownDom, List.forall_mem_singleton.mpr fun _ => Bool.noConfusion⟩
  · intro k val
    exact h.grow rfl rfl (fun _ hk => mem_addDom.mpr (.inl hk)) (addDom_nodup h.domNodup k) (push_grew s k val)
  · intro t k val
    refine ⟨old, h.histSorted, List.pairwise_map.mpr h.openIds, List.forall_mem_map.mpr h.openMain,
      List.forall_mem_map.mpr fun y hy => Nat.le_succ_of_le (h.beginLe y hy), addDom_nodup h.domNodup k,
      fun k' hk => mem_addDom.mpr (.inl (h.histDom k' hk)),
      List.forall_mem_map.mpr fun y hy k' hk => mem_addDom.mpr ?_⟩
    rw [putOwn_own] at hk
    split at hk
    · rename_i e; exact .inr e.2
    · exact .inl (h.ownDom y hy k' hk)

theorem step_grew {s : State} {op : Op} (hop : ∀ f, op ≠ .reopen f) : Grew s (step s op).1 :=
  step_ind (same := .keep (Nat.le_refl _) rfl) (ticked := .keep (Nat.le_succ _) rfl)
    (began := fun _ _ _ _ _ => .keep (Nat.le_succ _) rfl) (wroteMain := push_grew s)
    (wroteTx := fun _ _ _ => .keep (Nat.le_succ _) rfl) (closed := fun _ _ => .keep (Nat.le_refl _) rfl)
    (published := fun t tx _ _ => publish_grew (close s t) tx) (reopened := fun f e => absurd e (hop f))

theorem committed_le {s : State} (hs : SInv s) {k : Key} {v : SVer} (h : committed s k = some v) : v.stamp ≤ s.clock :=
  hs.stampsLe k v (committed_mem h)

theorem committed_mono {s : State} (hs : SInv s) {op : Op} (hop : ∀ f, op ≠ .reopen f) {k : Key} {v : SVer}
    (hc : committed s k = some v) : ∃ w, committed (step s op).1 k = some w ∧ v.stamp ≤ w.stamp := by
  rcases (step_grew hop).2 k with e | ⟨_, val, e⟩
  · exact ⟨v, (committed_congr e).trans hc, Nat.le_refl _⟩
  · exact ⟨_, committed_concat e, Nat.le_succ_of_le (committed_le hs hc)⟩

/-- the `dom` filter inside `writtenS` loses nothing -/
theorem mem_written {s : State} (hs : SInv s) {tx : STx} (htx : tx ∈ s.open_) (k : Key) :
    k ∈ writtenS s.dom tx.own ↔ (tx.own k).isSome :=
  List.mem_filter.trans ⟨fun h => h.2, fun h => ⟨hs.ownDom tx htx k h, h⟩⟩

theorem run_append (s : State) (a b : List Op) :
    run s (a ++ b) = ((run (run s a).1 b).1, (run s a).2 ++ (run (run s a).1 b).2) := by
  induction a generalizing s with
  | nil => rfl
  | cons x a ih => simp only [List.cons_append, run, ih]

theorem run_length (s : State) (a : List Op) : (run s a).2.length = a.length := by
  induction a generalizing s with
  | nil => rfl
  | cons x a ih => simp only [run, List.length_cons, ih]

theorem run_getElem? (s : State) (pre : List Op) (op : Op) (post : List Op) :
    (run s (pre ++ op :: post)).2[pre.length]? = some (step (run s pre).1 op).2 := by
  rw [run_append, List.getElem?_append_right (Nat.le_of_eq (run_length s pre)), run_length, Nat.sub_self]
  rfl

theorem SInv.run {s : State} (hs : SInv s) (a : List Op) : SInv (run s a).1 := by
  induction a generalizing s with
  | nil => exact hs
  | cons x a ih => exact ih (hs.step x)

end FsDb.Spec
