import FsDb.Proofs.Inv
/-! Reads of the concrete model return what the specification says (given `R`). -/
namespace FsDb
open Sys Spec

theorem foldl_newerS_map (cs : List (Option Ver)) (init : Option Ver) :
    (cs.map (Option.map absV)).foldl (fun acc o => newerS o acc) (init.map absV)
      = (cs.foldl (fun acc o => Sys.newer o acc) init).map absV := by
  rw [List.foldl_map, newerS_eq, newer_eq]
  exact foldl_newerBy_map absV (P := fun _ => True) (fun _ _ _ _ => Iff.rfl) id cs init (fun _ _ => trivial)
    fun _ _ _ _ => trivial

theorem Rx.committed_eq {c : Sys} {s : State} {cl : List Nat} (h : Rx cl c s) (k : Key) :
    committed s k = (Sys.latest (c.main k)).map absV :=
  (h.histRel k).getLast?

theorem Rx.snapshot_eq {c : Sys} {s : State} {cl : List Nat} (h : Rx cl c s) (k : Key) {r : TxRec} (hr : r ∈ c.reg)
    (hcl : r.id ∉ cl) :
    ((s.hist k).filter (fun v => v.stamp < r.seq)).getLast? = (Sys.lastBefore (c.main k) r.seq).map absV := by
  rw [lastBefore_eq_spec (h.inv.mainSorted k)]
  exact (h.histRel k).lastBefore fun v ho => ho r hr hcl

theorem ownLatest_mem {c : Sys} (h : Inv c) {t : Nat} {k : Key} {v : Ver}
    (hv : c.ownLatest t k = some v) : v ∈ c.all k :=
  h.listOf_sub_all (latest_mem (ownLatest_eq c t k ▸ hv))

/-- ReadUncommitted: the newest of the committed value and everybody's own last write is the last
    link of the all-store -/
theorem ru_eq {c : Sys} (h : Inv c) (k : Key) :
    (c.reg.map fun r => c.ownLatest r.id k).foldl (fun acc o => Sys.newer o acc) (Sys.latest (c.main k))
      = Sys.latest (c.all k) := by
  rw [newer_eq]
  obtain ⟨hmem, hge⟩ := foldl_newerBy (f := Ver.seq) (c.reg.map fun r => c.ownLatest r.id k) (Sys.latest (c.main k))
  generalize (c.reg.map fun r => c.ownLatest r.id k).foldl _ _ = y at hmem hge
  -- the fold's result is a candidate, hence linked
  have hy : ∀ z, y = some z → z ∈ c.all k := by
    rintro z rfl
    rcases List.mem_cons.mp hmem with hm | hm
    · exact h.main_sub_all (latest_mem hm.symm)
    · obtain ⟨r, _, hr⟩ := List.mem_map.mp hm
      exact ownLatest_mem h hr
  cases hall : Sys.latest (c.all k) with
  | none =>
    cases y with
    | none => rfl
    | some z => exact absurd (hy z rfl) (by simp [latest_none hall])
  | some w =>
    -- `w` is live: some candidate dominates it, hence the fold does; but `w` is the newest link
    obtain ⟨z, rfl, hwz⟩ : ∃ z, y = some z ∧ w.seq ≤ z.seq := by
      rcases (h.allMem k w).mp (latest_mem hall) with hm | ⟨t, st, hst, hm⟩
      · obtain ⟨x, hx, hwx⟩ := latest_ge (h.mainSorted k) hm
        obtain ⟨z, hz, hxz⟩ := hge _ List.mem_cons_self x hx
        exact ⟨z, hz, Nat.le_trans hwx hxz⟩
      · obtain ⟨htm, r, hr, rfl⟩ := h.txsReg t st hst
        obtain ⟨x, hx, hwx⟩ := latest_ge (h.txSorted _ st hst k) hm
        obtain ⟨z, hz, hxz⟩ := hge _ (List.mem_cons_of_mem _ (List.mem_map.mpr ⟨r, hr, rfl⟩)) x
          (by rw [ownLatest_tx htm, hst]; exact hx)
        exact ⟨z, hz, Nat.le_trans hwx hxz⟩
    have hz := hy z rfl
    exact congrArg some ((h.allSorted k).eq_of_seq_eq hz (latest_mem hall)
      (Nat.le_antisymm (latest_max (h.allSorted k) hall z hz) hwz))

theorem ru_spec {c : Sys} {s : State} {cl : List Nat} (h : Rx cl c s) (k : Key) :
    s.open_.foldl (fun acc t => newerS (t.own k) acc) (committed s k) = (Sys.latest (c.all k)).map absV := by
  have hown : s.open_.map (fun t => t.own k) = (c.reg.map fun r => c.ownLatest r.id k).map (Option.map absV) := by
    have := congrArg (List.map fun p => (c.ownLatest p.1 k).map absV) h.reg
    rw [List.map_map, List.map_map] at this
    rw [List.map_map]
    exact (List.map_congr_left fun t ht => h.own t ht k).trans this
  rw [← ru_eq h.inv k, ← foldl_newerS_map, ← hown, List.foldl_map, h.committed_eq k]

theorem coreGet_mem {c : Sys} (h : Inv c) (tx : TxRec) (k : Key) {v : Ver}
    (hv : c.coreGet tx k = some v) : v ∈ c.all k := by
  unfold Sys.coreGet at hv
  have key : ∀ (o : Option Ver), (∀ x, o = some x → x ∈ c.main k) →
      Sys.newer (c.ownLatest tx.id k) o = some v → v ∈ c.all k := fun o ho hn =>
    (newer_cases (c.ownLatest tx.id k) o).elim (fun e => ownLatest_mem h (e ▸ hn)) fun e => h.main_sub_all (ho v (e ▸ hn))
  cases hl : tx.level <;> simp only [hl] at hv
  · exact latest_mem hv
  · exact key _ (fun x => latest_mem) hv
  · exact key _ (fun x hx => (lastBefore_mem (h.mainSorted k) hx).1) hv
  · exact key _ (fun x hx => (lastBefore_mem (h.mainSorted k) hx).1) hv

theorem coreGet_main {c : Sys} {s : State} {cl : List Nat} (h : Rx cl c s) (k : Key) :
    (c.coreGet ⟨mainTx, .rc, 0⟩ k).map absV = visible s .rc 0 (fun _ => none) k := by
  simp only [Sys.coreGet, visible, Sys.ownLatest, Sys.txStore, if_true]
  rw [newer_self, h.committed_eq k]
  simp [newerS]

theorem coreGet_reg {c : Sys} {s : State} {cl : List Nat} (h : Rx cl c s) {tx : TxRec} (htx : tx ∈ c.reg) (hcl : tx.id ∉ cl)
    {own : Key → Option SVer} (k : Key) (hown : own k = (c.ownLatest tx.id k).map absV) :
    (c.coreGet tx k).map absV = visible s tx.level tx.seq own k := by
  -- a snapshot reader: the own version, if any, is newer than anything before the begin number
  have hsnap : (Sys.newer (c.ownLatest tx.id k) (Sys.lastBefore (c.main k) tx.seq)).map absV =
      match own k with
      | some v => some v
      | none => ((s.hist k).filter (fun v => v.stamp < tx.seq)).getLast? := by
    rw [hown, h.snapshot_eq k htx hcl]
    cases ho : c.ownLatest tx.id k with
    | none => rfl
    | some o =>
      rw [newer_of_gt fun m hlb => Nat.lt_trans (lastBefore_mem (h.inv.mainSorted k) hlb).2
        (h.inv.listOwn htx (latest_mem (ownLatest_eq c tx.id k ▸ ho)))]
      rfl
  unfold Sys.coreGet visible
  cases hl : tx.level with
  | ru => exact (ru_spec h k).symm
  | rc => simp only; rw [newer_map_absV, hown, h.committed_eq k]
  | rr => exact hsnap
  | ser => exact hsnap

theorem reader_cases {c : Sys} {s : State} {cl : List Nat} (h : Rx cl c s) (t : Nat) (hcl : t ∉ cl) :
    (c.regGet t = none ∧ ctxOf s t = none) ∨
    ∃ tx lvl b own, c.regGet t = some tx ∧ ctxOf s t = some (lvl, b, own) ∧
      ∀ k, (c.coreGet tx k).map absV = visible s lvl b own k := by
  by_cases ht : t = mainTx
  · exact Or.inr ⟨_, _, _, _, ht ▸ regGet_main c, ht ▸ ctxOf_main s, coreGet_main h⟩
  rw [regGet_of_ne ht, ctxOf_of_ne ht]
  rcases h.find_cases t with ⟨h2, h1⟩ | ⟨x, h2, h1⟩
  · exact Or.inl ⟨h1, h2 ▸ rfl⟩
  · obtain ⟨hx, rfl⟩ := Spec.find_mem h2
    exact Or.inr ⟨_, _, _, _, h1, h2 ▸ rfl, fun k => coreGet_reg h (h.mem_reg_of_open hx) hcl k (h.own x hx k)⟩

theorem get_noTx {c : Sys} {t : Nat} (h : c.regGet t = none) (k : Key) : c.get t k = .err .txNotFound := by
  rw [Sys.get, h]

/-- `Sys.get` past the registry lookup, as `getKeys_of_reg` -/
theorem get_reg {c : Sys} {t : Nat} {tx : TxRec} (h : c.regGet t = some tx) (k : Key) :
    c.get t k = match c.coreGet tx k with
      | none => .err .notFound
      | some v => match c.hasContent v.cid with
        | none => .err .notFound
        | some n => .val n := by
  rw [Sys.get, h]; rfl

/-- the content record of the version read is its ghost value (`Inv.stor`) -/
theorem get_of_reg {c : Sys} (i : Inv c) {t : Nat} {tx : TxRec} (h : c.regGet t = some tx) (k : Key) :
    c.get t k = outOf ((c.coreGet tx k).map absV) := by
  rw [get_reg h]
  cases hg : c.coreGet tx k with
  | none => rfl
  | some v =>
    simp only [Option.map_some, i.stor k v (coreGet_mem i tx k hg)]
    cases hv : v.val <;> simp [outOf, absV, hv]

theorem getKeys_noTx {c : Sys} {t : Nat} (h : c.regGet t = none) : c.getKeys t = .err .txNotFound := by
  rw [Sys.getKeys, h]

theorem getKeys_of_reg {c : Sys} {t : Nat} {tx : TxRec} (h : c.regGet t = some tx) :
    c.getKeys t = .keys (sortKeys (c.dom.filter (c.listed tx))) := by
  rw [Sys.getKeys, h]

theorem listed_hasValue {c : Sys} (i : Inv c) (tx : TxRec) (k : Key) :
    c.listed tx k = hasValue ((c.coreGet tx k).map absV) := by
  rw [hasValue_eq, Sys.listed]
  cases hg : c.coreGet tx k with
  | none => rfl
  | some v => exact congrArg Option.isSome (i.stor k v (coreGet_mem i tx k hg))

theorem Rx.get_eq {c : Sys} {s : State} {cl : List Nat} (h : Rx cl c s) (t : Nat) (k : Key)
    (hcl : t ∉ cl := by simp) : c.get t k = Spec.get s t k := by
  rcases reader_cases h t hcl with ⟨h1, h2⟩ | ⟨tx, lvl, b, own, h1, h2, hk⟩
  · rw [get_noTx h1, get_closed h2]
  · rw [get_of_reg h.inv h1, get_of_ctx h2, hk]

theorem Rx.getKeys_eq {c : Sys} {s : State} {cl : List Nat} (h : Rx cl c s) (t : Nat)
    (hcl : t ∉ cl := by simp) : c.getKeys t = Spec.getKeys s t := by
  rcases reader_cases h t hcl with ⟨h1, h2⟩ | ⟨tx, lvl, b, own, h1, h2, hk⟩
  · rw [getKeys_noTx h1, getKeys_closed h2]
  · rw [getKeys_of_reg h1, getKeys_of_ctx h2, h.dom]
    exact congrArg (Out.keys ∘ Sys.sortKeys) (List.filter_congr fun k _ => (listed_hasValue h.inv tx k).trans (congrArg _ (hk k)))

theorem reads_congr {c c' : Sys} {s s' : State} (h : R c s) (h' : R c' s') (t : Nat) (k : Key)
    (hg : Spec.get s' t k = Spec.get s t k) (hk : Spec.getKeys s' t = Spec.getKeys s t) :
    c'.get t k = c.get t k ∧ c'.getKeys t = c.getKeys t :=
  ⟨by rw [h'.get_eq, h.get_eq, hg], by rw [h'.getKeys_eq, h.getKeys_eq, hk]⟩

end FsDb
