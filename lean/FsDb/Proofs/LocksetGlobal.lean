import FsDb.Proofs.Lockset
/-! The global half of C15 (`race_free`).  Everything rests on two frame facts: a lock enters a goroutine's
    lockset only when that goroutine acquires it (`Held.mem_of_mem_set`), and leaves it only when that
    goroutine releases it (`Held.mem_set_of_mem`). -/
namespace FsDb.Lockset

theorem LS.mem_insert {L : LS} {e x : Lock × Bool} : x ∈ LS.insert L e ↔ x = e ∨ x ∈ L := by
  induction L with
  | nil => exact List.mem_singleton.trans (or_iff_left List.not_mem_nil).symm
  | cons y ys ih =>
    unfold LS.insert
    split
    · exact List.mem_cons
    · simp only [List.mem_cons, ih]; exact or_left_comm

theorem LS.covers_iff {L : LS} {l : Lock} {w : Bool} :
    L.covers l w = true ↔ ∃ m, (l, m) ∈ L ∧ (w = true → m = true) := by
  cases w <;> simp [LS.covers, Bool.exists_bool, or_comm]

theorem LS.mem_step {L L' : LS} {e : Ev} (h : L.step e = some L') {x : Lock × Bool} :
    x ∈ L' ↔ (match e with
      | .acq l w => x = (l, w) ∨ x ∈ L
      | .rel l w => x ∈ L ∧ x ≠ (l, w)
      | .need _ _ => x ∈ L) := by
  cases e with
  | acq l w =>
    cases (Option.ite_none_left_eq_some.mp h).2
    exact LS.mem_insert
  | rel l w =>
    cases (Option.ite_none_right_eq_some.mp h).2
    simp only [List.mem_filter, bne_iff_ne]
  | need l w =>
    cases (Option.ite_none_right_eq_some.mp h).2
    rfl

variable {H : Held} {t t' a b : Thread} {e : Ev} {L' : LS} {l : Lock} {x : Lock × Bool}

theorem Held.set_same (H : Held) (t : Thread) (L : LS) : (H.set t L) t = L := if_pos rfl
theorem Held.set_other (H : Held) (L : LS) (h : t' ≠ t) : (H.set t L) t' = H t' := if_neg h

theorem Held.mem_of_mem_set (hs : (H t).step e = some L') (hx : x ∈ (H.set t L') t') :
    x ∈ H t' ∨ (t' = t ∧ e = .acq x.1 x.2) := by
  by_cases h : t' = t
  · subst h
    rw [Held.set_same, LS.mem_step hs] at hx
    cases e with
    | acq =>
      rcases hx with rfl | hx
      · exact .inr ⟨rfl, rfl⟩
      · exact .inl hx
    | rel => exact .inl hx.1
    | need => exact .inl hx
  · exact .inl (Held.set_other H L' h ▸ hx)

theorem Held.mem_set_of_mem (hs : (H t).step e = some L') (hx : x ∈ H t') :
    x ∈ (H.set t L') t' ∨ (t' = t ∧ e = .rel x.1 x.2) := by
  by_cases h : t' = t
  · subst h
    rw [Held.set_same, LS.mem_step hs]
    cases e with
    | acq => exact .inl (.inr hx)
    | rel l w =>
      by_cases hxe : x = (l, w)
      · exact .inr ⟨rfl, hxe ▸ rfl⟩
      · exact .inl ⟨hx, hxe⟩
    | need => exact .inl hx
  · exact .inl (Held.set_other H L' h ▸ hx)

theorem Excl.step (hx : Excl H) (hs : (H t).step e = some L')
    (hc : ∀ l w, e = .acq l w → compat H t l w) : Excl (H.set t L') := by
  intro t1 t2 l hne h1 w2 h2
  rcases Held.mem_of_mem_set hs h1 with k1 | ⟨rfl, he⟩
  · rcases Held.mem_of_mem_set hs h2 with k2 | ⟨rfl, he⟩
    · exact hx t1 t2 l hne k1 w2 k2
    · exact (hc l w2 he t1 hne).1 k1
  · -- `t1` has just taken `l` exclusively: `t2`, whose lockset is untouched, holds it in no mode
    rw [Held.set_other H L' hne.symm] at h2
    have hc := hc l true he t2 hne.symm
    cases w2
    · exact hc.2 rfl h2
    · exact hc.1 h2

theorem GValid.excl_after {pre tr : List (Thread × Ev)} (h : GValid H (pre ++ tr)) (hx : Excl H) :
    ∃ H', GValid H' tr ∧ Excl H' := by
  induction pre generalizing H with
  | nil => exact ⟨H, h, hx⟩
  | cons x xs ih =>
    cases h with
    | cons hs hc hrest => exact ih hrest (hx.step hs hc)

theorem GValid.need_covers {w : Bool} {tr : List (Thread × Ev)} (h : GValid H ((t, .need l w) :: tr)) :
    (H t).covers l w = true := by
  cases h with
  | cons hs _ _ => exact (Option.ite_none_right_eq_some.mp hs).1

theorem Excl.not_covers {ma wb : Bool} (hx : Excl H) (hab : a ≠ b) (hconf : ma = true ∨ wb = true)
    (ha : (l, ma) ∈ H a) : ¬ (H b).covers l wb = true := by
  intro hcv
  obtain ⟨mb, hb, hw⟩ := LS.covers_iff.mp hcv
  rcases hconf with rfl | rfl
  · exact hx a b l hab ha mb hb
  · cases hw rfl
    exact hx b a l hab.symm hb ma ha

theorem acq_between {wb : Bool} {mid post : List (Thread × Ev)}
    (h : GValid H (mid ++ (b, .need l wb) :: post)) (hc : ¬ (H b).covers l wb = true) :
    ∃ m2 m3 wq, mid = m2 ++ (b, .acq l wq) :: m3 := by
  induction mid generalizing H with
  | nil => exact absurd h.need_covers hc
  | cons x xs ih =>
    obtain ⟨t, e⟩ := x
    cases h with
    | @cons _ _ _ L' _ hs _ hrest =>
      by_cases hc' : ((H.set t L') b).covers l wb = true
      · -- the lock that covers the access now was not held before: this step acquired it
        obtain ⟨m, hm, hw⟩ := LS.covers_iff.mp hc'
        rcases Held.mem_of_mem_set hs hm with hm | ⟨rfl, rfl⟩
        · exact absurd (LS.covers_iff.mpr ⟨m, hm, hw⟩) hc
        · exact ⟨[], xs, m, rfl⟩
      · obtain ⟨m2, m3, wq, rfl⟩ := ih hrest hc'
        exact ⟨(t, e) :: m2, m3, wq, rfl⟩

theorem separated {a b : Thread} {l : Lock} {ma wb : Bool} (hab : a ≠ b) (hconf : ma = true ∨ wb = true) :
    ∀ {mid : List (Thread × Ev)} {H : Held} {post : List (Thread × Ev)},
      GValid H (mid ++ (b, .need l wb) :: post) → Excl H → (l, ma) ∈ H a →
      ∃ m1 m2 m3 wr wq, mid = m1 ++ (a, .rel l wr) :: (m2 ++ (b, .acq l wq) :: m3) := by
  intro mid
  induction mid with
  | nil => intro H post h hx ha; exact absurd h.need_covers (hx.not_covers hab hconf ha)
  | cons x xs ih =>
    intro H post h hx ha
    obtain ⟨t, e⟩ := x
    cases h with
    | @cons _ _ _ L' _ hs hcm hrest =>
      rcases Held.mem_set_of_mem hs ha with ha' | ⟨rfl, rfl⟩
      · obtain ⟨m1, m2, m3, wr, wq, rfl⟩ := ih hrest (hx.step hs hcm) ha'
        exact ⟨(t, e) :: m1, m2, m3, wr, wq, rfl⟩
      · -- `a` releases; `b`, whose lockset this leaves alone, still does not cover `l`
        have hcb := hx.not_covers hab hconf ha
        rw [← Held.set_other H L' hab.symm] at hcb
        obtain ⟨m2, m3, wq, rfl⟩ := acq_between hrest hcb
        exact ⟨[], m2, m3, ma, wq, rfl⟩

/-- In a valid trace, two accesses to state guarded by `l` from different
    goroutines, at least one a write, have between them a release of `l` by the first goroutine and
    a later acquisition of `l` by the second: the later access is ordered after the earlier one by
    program order, the mutex's synchronises-before edge, and program order again. -/
theorem race_free {H : Held} (hx : Excl H) {pre mid post : List (Thread × Ev)} {a b : Thread} {l : Lock} {wa wb : Bool}
    (h : GValid H (pre ++ (a, .need l wa) :: (mid ++ (b, .need l wb) :: post)))
    (hab : a ≠ b) (hconf : wa = true ∨ wb = true) :
    ∃ m1 m2 m3 wr wq, mid = m1 ++ (a, .rel l wr) :: (m2 ++ (b, .acq l wq) :: m3) := by
  obtain ⟨H1, h1, hx1⟩ := GValid.excl_after h hx
  obtain ⟨ma, hm, hw⟩ := LS.covers_iff.mp h1.need_covers
  cases h1 with
  | cons hs hcm hrest =>
    refine separated hab (hconf.imp_left hw) hrest (hx1.step hs hcm) ?_
    rw [Held.set_same]
    exact (LS.mem_step hs).mpr hm

theorem Run.gvalid {Q : Thread → List Ev} {tr : List (Thread × Ev)} (h : Run H Q tr)
    (hd : ∀ t, (LS.run (H t) (Q t)).isSome = true) : GValid H tr := by
  induction h with
  | nil => exact .nil
  | @cons H Q t e rest tr hq hc _ ih =>
    have ht := hd t
    rw [hq, LS.run] at ht
    cases hs : (H t).step e with
    | none => rw [hs] at ht; cases ht
    | some L' =>
      rw [hs] at ht ih
      refine .cons hs hc (ih fun t' => ?_)
      simp only [Held.set]
      split
      · exact ht
      · exact hd t'

theorem Excl.init : Excl (fun _ => []) :=
  fun _ _ _ _ h => nomatch h

end FsDb.Lockset
