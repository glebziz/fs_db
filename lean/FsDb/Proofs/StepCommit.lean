import FsDb.Proofs.StepDiscard
/-! `Commit` (`core.UpdateTx`): the pieces `UpdateTx` computes; `Inv` of the published state. -/
namespace FsDb
open Sys Spec

/-- What `UpdateTx` computes from the store `st`, at the key list of the state `c` (the `c` of the names): the keys
    written, the last version of each (published), the earlier ones (superseded).  `pubOf c st k` is what the main list
    of `k` gains: the last version with the commit's tag and number. -/
abbrev cWritten (c : Sys) (st : Store) : List Key := Sys.written c.dom st
abbrev cLasts (c : Sys) (st : Store) : List Ver := Sys.lastsOf c.dom st
abbrev cOlds (c : Sys) (st : Store) : List Ver := Sys.oldsOf c.dom st

def pubOf (c : Sys) (st : Store) (k : Key) : List Ver :=
  match Sys.latest (st k) with
  | some v => [Sys.retag (c.counter + 1) v]
  | none => []

/-- the record that stands in the place of `r` after the versions `pub` were published -/
def pubRec (pub : List Ver) (r : Ver) : Ver :=
  match pub.find? (·.cid = r.cid) with
  | some p => p
  | none => r

theorem pubRec_cases (pub : List Ver) (r : Ver) :
    (pubRec pub r ∈ pub ∧ (pubRec pub r).cid = r.cid) ∨ (pubRec pub r = r ∧ ∀ p ∈ pub, p.cid ≠ r.cid) := by
  unfold pubRec
  cases hf : pub.find? (·.cid = r.cid) with
  | some p => exact Or.inl ⟨List.mem_of_find?_eq_some hf, by simpa using List.find?_some hf⟩
  | none => exact Or.inr ⟨rfl, fun p hp => by simpa using List.find?_eq_none.mp hf p hp⟩

theorem pubRec_cid (pub : List Ver) (r : Ver) : (pubRec pub r).cid = r.cid := by
  rcases pubRec_cases pub r with ⟨_, h⟩ | ⟨h, _⟩
  · exact h
  · rw [h]

theorem mem_cWritten {c : Sys} (i : Inv c) {t : Nat} {st : Store} (hst : c.txs t = some st) (k : Key) :
    k ∈ cWritten c st ↔ st k ≠ [] := by
  unfold cWritten Sys.written
  rw [List.mem_filter, decide_eq_true_eq, and_iff_right_iff_imp]
  intro h
  obtain ⟨v, hv⟩ := List.exists_mem_of_ne_nil _ h
  exact i.mem_dom (i.tx_sub_all hst hv)

theorem mem_cLasts {c : Sys} {st : Store} {v : Ver} : v ∈ cLasts c st ↔ ∃ k ∈ cWritten c st, Sys.latest (st k) = some v :=
  List.mem_filterMap

theorem mem_cOlds {c : Sys} {st : Store} {v : Ver} : v ∈ cOlds c st ↔ ∃ k ∈ cWritten c st, v ∈ (st k).dropLast :=
  List.mem_flatMap

theorem isStoreOf_commit {c : Sys} (i : Inv c) {t : Nat} {st : Store} (hst : c.txs t = some st) :
    IsStoreOf st (cLasts c st ++ cOlds c st) := by
  intro v
  rw [List.mem_append, mem_cLasts, mem_cOlds]
  constructor
  · rintro (⟨k, _, hk⟩ | ⟨k, _, hk⟩)
    · exact ⟨k, latest_mem hk⟩
    · exact ⟨k, (List.dropLast_sublist _).subset hk⟩
  · rintro ⟨k, hv⟩
    have hw : k ∈ cWritten c st := (mem_cWritten i hst k).mpr (List.ne_nil_of_mem hv)
    exact (mem_dropLast_or_last.mp hv).symm.imp (fun h => ⟨k, hw, h⟩) fun h => ⟨k, hw, h⟩

theorem cLasts_nil_iff {c : Sys} (i : Inv c) {t : Nat} {st : Store} (hst : c.txs t = some st) :
    cLasts c st = [] ↔ cWritten c st = [] := by
  refine ⟨fun h => List.eq_nil_iff_forall_not_mem.mpr fun k hk => ?_, fun h => by show List.filterMap _ (cWritten c st) = []; rw [h]; rfl⟩
  -- a written key has a last version
  exact (mem_cWritten i hst k).mp hk (latest_none (List.filterMap_eq_nil_iff.mp h k hk))

/-- the written keys are distinct and every version carries its key, so only the last version of `k`
    itself is left -/
theorem pub_filter_key {c : Sys} (i : Inv c) {t : Nat} {st : Store} (hst : c.txs t = some st) (k : Key) :
    ((cLasts c st).map (Sys.retag (c.counter + 1))).filter (·.key = k)
      = pubOf c st k := by
  have hkey : ∀ k' ∈ cWritten c st,
      ((Sys.latest (st k')).map (Sys.retag (c.counter + 1))).filter (fun p => decide (p.key = k)) =
        if k' = k then (Sys.latest (st k)).map (Sys.retag (c.counter + 1)) else none := by
    intro k' _
    cases hl : Sys.latest (st k') with
    | none => split <;> simp_all
    | some v =>
      have : v.key = k' := i.key_eq (i.tx_sub_all hst (latest_mem hl))
      by_cases hk : k' = k <;> simp_all [Sys.retag, Option.filter]
  unfold cLasts Sys.lastsOf
  rw [List.map_filterMap, List.filter_filterMap, filterMap_congr hkey,
    filterMap_ite_eq (show (cWritten c st).Nodup from i.domNodup.sublist List.filter_sublist)]
  unfold pubOf
  cases hl : Sys.latest (st k) with
  | none => simp
  | some v => simp [(mem_cWritten i hst k).mpr (List.ne_nil_of_mem (latest_mem hl))]

/-- the state after a successful commit that published something -/
def pubState (c : Sys) (t : Nat) (st : Store) (recs' : List Ver) : Sys :=
  { discard c t (cLasts c st ++ cOlds c st) (cOlds c st) with
      counter := c.counter + 1,
      main := fun k => c.main k ++ pubOf c st k,
      all := fun k => (discard c t (cLasts c st ++ cOlds c st) (cOlds c st)).all k ++ pubOf c st k,
      recs := recs' }

theorem mem_pubOf {c : Sys} {st : Store} {k : Key} {p : Ver} :
    p ∈ pubOf c st k ↔ ∃ v, Sys.latest (st k) = some v ∧ p = Sys.retag (c.counter + 1) v := by
  unfold pubOf
  cases Sys.latest (st k) <;> simp

theorem cOlds_subset {c : Sys} {st : Store} : ∀ v ∈ cOlds c st, v ∈ cLasts c st ++ cOlds c st :=
  fun _ hv => List.mem_append_right _ hv

theorem publish_inv {c : Sys} (i : Inv c) {t : Nat} {st : Store} (hst : c.txs t = some st)
    (recs' : List Ver) : Inv (pubState c t st recs') := by
  have hr := isStoreOf_commit i hst
  have i2 := discard_inv i hst hr cOlds_subset
  -- a linked version was linked before and did not go with the store, or it is the last version of
  -- its key in the store, re-tagged
  have hall : ∀ {P : Key → Ver → Prop},
      (∀ k, ∀ u ∈ (discard c t (cLasts c st ++ cOlds c st) (cOlds c st)).all k, P k u) →
      (∀ k v, Sys.latest (st k) = some v → v ∈ c.all k → P k (Sys.retag (c.counter + 1) v)) →
      ∀ k, ∀ u ∈ (pubState c t st recs').all k, P k u := by
    intro P ho hn k u hu
    rcases List.mem_append.mp hu with h | h
    · exact ho k u h
    · obtain ⟨v, hv, rfl⟩ := mem_pubOf.mp h
      exact hn k v hv (i.tx_sub_all hst (latest_mem hv))
  have hgone : ∀ k u, u ∈ (discard c t (cLasts c st ++ cOlds c st) (cOlds c st)).all k →
      ∀ k' v, Sys.latest (st k') = some v → v.cid ≠ u.cid := fun k u hu k' v hv =>
    (mem_removeLinks.mp hu).2 v ((hr v).mpr ⟨k', latest_mem hv⟩)
  have happSorted : ∀ (l : List Ver) k, SortedSeq l → (∀ u ∈ l, u ∈ c.all k) → SortedSeq (l ++ pubOf c st k) := by
    intro l k hl hsub
    unfold pubOf
    cases Sys.latest (st k) with
    | none => simpa using hl
    | some v => exact hl.concat fun u hu => i.seq_lt_next (hsub u hu)
  exact { i2 with
    mainSorted := fun k => happSorted _ k (i.mainSorted k) fun u => i.main_sub_all
    allSorted := fun k => happSorted _ k (i2.allSorted k) fun u => discard_sub
    regBound := fun r hr' => (i2.regBound r hr').imp_right Nat.le_succ_of_le
    allMem := fun k u => by
      show u ∈ _ ++ pubOf c st k ↔ (u ∈ c.main k ++ pubOf c st k ∨ _)
      rw [List.mem_append, List.mem_append, i2.allMem, or_right_comm]
      exact Iff.rfl
    bounds := hall (fun k u h => (i2.bounds k u h).imp_right (And.imp_left Nat.le_succ_of_le))
      fun k v _ hv => ⟨Nat.succ_pos _, Nat.le_refl _, (i.bounds k v hv).2.2⟩
    cidUnique := fun k k' u u' hu hu' =>
      hall (P := fun _ u => ∀ k', ∀ u' ∈ (pubState c t st recs').all k', u.cid = u'.cid → u = u')
        (fun k u h => hall (fun k' u' h' => i2.cidUnique k k' u u' h h')
          fun k' v' hl' _ he => absurd he.symm (hgone k u h k' v' hl'))
        (fun k v hl hv => hall (fun k' u' h' he => absurd he (hgone k' u' h' k v hl))
          fun k' v' _ hv' he => by rw [i.cidUnique k k' v v' hv hv' he])
        k u hu k' u' hu'
    beginNotVer := fun r hr' =>
      hall (i2.beginNotVer r hr') fun _ _ _ _ => Nat.ne_of_gt (Nat.lt_succ_of_le (i2.regBound r hr').2)
    stor := hall i2.stor fun k v _ hv => i.stor k v hv
    pendDead := fun job hj v hv => hall (i2.pendDead job hj v hv) fun k v0 hl0 hva => by
      show v0.cid ≠ v.cid
      rcases mem_pending_submit.mp hj with hp | ⟨rfl, _⟩
      · exact i.pendDead job hp v hv k v0 hva
      · -- `v` is an earlier version of some key, `v0` the last version of `k`: they differ
        obtain ⟨k', _, hk'⟩ := mem_cOlds.mp hv
        have hv' := i.tx_sub_all hst ((List.dropLast_sublist _).subset hk')
        intro he
        cases i.cidUnique k k' v0 v hva hv' he
        cases i.key_unique hva hv'
        exact latest_not_mem_dropLast (i.txSorted t st hst k) hl0 hk'
    domAll := fun k hne => (List.exists_mem_of_ne_nil _ hne).elim <|
      hall (P := fun k _ => k ∈ c.dom) (fun _ _ h => i.mem_dom (discard_sub h)) (fun _ _ _ hv => i.mem_dom hv) k
    tagMain := fun k u hu => by
      rcases List.mem_append.mp (show u ∈ c.main k ++ pubOf c st k from hu) with h | h
      · exact i.tagMain k u h
      · obtain ⟨v, _, rfl⟩ := mem_pubOf.mp h; rfl }

end FsDb
