import FsDb.Proofs.Refine
/-!
  The record invariant: how the Badger `file/` records (`recs`) relate to the in-memory version
  lists, through every operation.  It is what makes `Close`+`Open` (`core.Load`) refine the
  specification's `reopen` (`Proofs/Reopen.lean`).
-/
namespace FsDb
open Sys Spec

structure RecInv (c : Sys) : Prop where
  mainRec : ∀ k, ∀ v ∈ c.main k, v ∈ c.recs
  txRec : ∀ t st, c.txs t = some st → ∀ k, ∀ v ∈ st k, v ∈ c.recs
  -- `deleteFile` leaves the record of a tombstone where it is, so a collected tombstone keeps its
  -- record: a record tagged main need not be a main version, only never newer than one.  That is
  -- all `Load` needs, which keeps the newest per key (`winner_eq`).
  recMain : ∀ r ∈ c.recs, r.tx = mainTx → ∃ w ∈ c.main r.key, r.seq ≤ w.seq ∧ (r.seq = w.seq → r = w)
  -- for the deletion job that `Load` makes of the records it does not keep (`Inv.pendBound`)
  recBound : ∀ r ∈ c.recs, r.cid < c.nextCid

theorem RecInv.init : RecInv ({} : Sys) := by
  constructor <;> intros <;> contradiction

theorem RecInv.live {c : Sys} (h : RecInv c) {k : Key} {v : Ver} : Live c k v → v ∈ c.recs
  | .inl hv => h.mainRec k v hv
  | .inr ⟨t, st, hst, hv⟩ => h.txRec t st hst k v hv

theorem RecInv.of_live {c : Sys} (hlive : ∀ k v, Live c k v → v ∈ c.recs)
    (hmain : ∀ r ∈ c.recs, r.tx = mainTx → ∃ w ∈ c.main r.key, r.seq ≤ w.seq ∧ (r.seq = w.seq → r = w))
    (hbound : ∀ r ∈ c.recs, r.cid < c.nextCid) : RecInv c :=
  ⟨fun k v hv => hlive k v (Or.inl hv), fun t st hst k v hv => hlive k v (Or.inr ⟨t, st, hst, hv⟩), hmain, hbound⟩

theorem RecInv.remove {a b : Sys} (h : RecInv a) (h1 : b.main = a.main)
    (h2 : ∀ t st, b.txs t = some st → a.txs t = some st) (hsub : ∀ r ∈ b.recs, r ∈ a.recs)
    (hkeep : ∀ k v, Live a k v → Live b k v → v ∈ b.recs) (h4 : a.nextCid ≤ b.nextCid) : RecInv b := by
  refine .of_live (fun k v hl => hkeep k v ?_ hl) (fun r hr => h1 ▸ h.recMain r (hsub r hr))
    (fun r hr => Nat.lt_of_lt_of_le (h.recBound r (hsub r hr)) h4)
  exact hl.imp (h1 ▸ id) fun ⟨t, st, hst, hv⟩ => ⟨t, st, h2 t st hst, hv⟩

theorem RecInv.shrink {a b : Sys} (h : RecInv a) (h1 : b.main = a.main) (h3 : b.recs = a.recs)
    (h2 : ∀ t st, b.txs t = some st → a.txs t = some st) (h4 : a.nextCid ≤ b.nextCid := by exact Nat.le_refl _) : RecInv b :=
  h.remove h1 h2 (fun _ hr => h3 ▸ hr) (fun _ _ hl _ => h3 ▸ h.live hl) h4

theorem RecInv.congr {a b : Sys} (h : RecInv a) (h1 : b.main = a.main := by rfl) (h2 : b.txs = a.txs := by rfl)
    (h3 : b.recs = a.recs := by rfl)
    (h4 : a.nextCid ≤ b.nextCid := by exact Nat.le_refl _) : RecInv b :=
  h.shrink h1 h3 (fun _ _ hst => h2 ▸ hst) h4

theorem RecInv.deleteFiles {c : Sys} (i : Inv c) (h : RecInv c) (vs : List Ver)
    (hd : ∀ v ∈ vs, Unlinked c.all v) : RecInv (c.deleteFiles vs) := by
  exact h.remove (deleteFiles_main c vs) (fun t st hst => deleteFiles_txs c vs ▸ hst) (deleteFiles_recs_sub c vs)
    (fun k v hl _ => deleteFiles_recs_keep' c vs v (h.live hl) fun u hu => hd u hu k v ((i.allMem k v).mpr hl))
    (Nat.le_of_eq (deleteFiles_nextCid c vs).symm)

theorem RecInv.drain {c : Sys} (i : Inv c) (h : RecInv c) : RecInv (c.drain).1 := by
  rw [drain_eq]
  exact (h.deleteFiles i _ (pending_flatten_unlinked i)).congr

theorem RecInv.store {c : Sys} (i : Inv c) (h : RecInv c) (extra : List (Nat × Nat)) (t : Nat) (k : Key)
    (val : Option Nat) : RecInv (afterStore c extra t k val) := by
  have hmain : ∀ k' w, w ∈ c.main k' ∨ (mainTx = t ∧ k' = k ∧ w = newVer c t k val) →
      w ∈ (afterStore c extra t k val).main k' := fun _ _ => mem_after_listOf (t' := mainTx).mpr
  refine .of_live (fun k' u hu => ?_) ?_ ?_ <;> rw [after_recs]
  · exact List.mem_append.mpr
      (((live_after c i.noMainTx extra t k val k' u).mp hu).imp h.live fun e => List.mem_singleton.mpr e.2)
  · exact List.forall_mem_append.mpr
      ⟨fun r hr hrt => have ⟨w, hw, hle⟩ := h.recMain r hr hrt; ⟨w, hmain _ w (Or.inl hw), hle⟩,
        List.forall_mem_singleton.mpr fun hrt => ⟨_, hmain _ _ (Or.inr ⟨hrt.symm, rfl, rfl⟩), Nat.le_refl _, fun _ => rfl⟩⟩
  · rw [after_nextCid]
    exact List.forall_mem_append.mpr
      ⟨fun r hr => Nat.lt_succ_of_lt (h.recBound r hr), List.forall_mem_singleton.mpr (Nat.lt_succ_self _)⟩

theorem RecInv.set {c : Sys} (i : Inv c) (h : RecInv c) (t : Nat) (k : Key) (n : Nat) : RecInv (c.set t k n).1 := by
  rw [set_eq]
  split
  · exact h
  split
  · exact h
  · exact h.store i _ t k _

theorem RecInv.del {c : Sys} (i : Inv c) (h : RecInv c) (t : Nat) (k : Key) : RecInv (c.del t k).1 := by
  rw [del_eq]
  split
  · exact h
  · exact h.store i _ t k _

theorem RecInv.begin {c : Sys} (h : RecInv c) (t : Nat) (lvl : Level) : RecInv (c.begin t lvl).1 :=
  begin_ind c t lvl h fun _ _ => h.congr

theorem retag_key (n : Nat) (v : Ver) : (Sys.retag n v).key = v.key := rfl

theorem RecInv.publish {c : Sys} (i : Inv c) (h : RecInv c) {t : Nat} {st : Store} (hst : c.txs t = some st) :
    RecInv (pubState c t st (c.recs.map (pubRec ((cLasts c st).map (Sys.retag (c.counter + 1)))))) := by
  let pub := (cLasts c st).map (Sys.retag (c.counter + 1))
  have hus : ∀ u ∈ cLasts c st, ∃ k, u ∈ st k := fun u hu => (isStoreOf_commit i hst u).mp (List.mem_append_left _ hu)
  -- content ids are unique among live versions (`Inv.cidUnique`): the record of a live version is
  -- re-tagged if it is published, and stays as it is if it belongs to another transaction or to main
  have hrec : ∀ k v, Live c k v → (v ∈ cLasts c st → Sys.retag (c.counter + 1) v ∈ c.recs.map (pubRec pub)) ∧
      (v.tx ≠ t → v ∈ c.recs.map (pubRec pub)) := by
    intro k v hv
    have hm : pubRec pub v ∈ c.recs.map (pubRec pub) := List.mem_map_of_mem (h.live hv)
    rcases pubRec_cases pub v with ⟨hp, hc⟩ | ⟨e, hno⟩
    · obtain ⟨u, hu, e⟩ := List.mem_map.mp hp
      obtain ⟨k', hk'⟩ := hus u hu
      cases i.cidUnique k' k u v (i.tx_sub_all hst hk') ((i.allMem k v).mpr hv) (by rw [← hc, ← e]; rfl)
      exact ⟨fun _ => e ▸ hm, fun hne => absurd (i.tagTx t st hst k' v hk') hne⟩
    · exact ⟨fun hv => (hno _ (List.mem_map_of_mem hv) rfl).elim, fun _ => e ▸ hm⟩
  have hne : t ≠ mainTx := (i.txsReg t st hst).1
  refine ⟨fun k v hv => ?_, fun t' st' hst' k v hv => ?_, List.forall_mem_map.mpr fun r hr hrt => ?_,
    List.forall_mem_map.mpr fun r hr => by rw [pubRec_cid]; exact h.recBound r hr⟩
  · rcases List.mem_append.mp hv with hv | hv
    · exact (hrec k v (Or.inl hv)).2 (i.tagMain k v hv ▸ hne.symm)
    · obtain ⟨u, hu, rfl⟩ := List.mem_map.mp (mem_of_filter (pub_filter_key i hst k ▸ hv))
      obtain ⟨k', hk'⟩ := hus u hu
      exact (hrec k' u (Or.inr ⟨t, st, hst, hk'⟩)).1 hu
  · obtain ⟨htt, hst'⟩ := Option.ite_none_left_eq_some.mp hst'
    exact (hrec k v (Or.inr ⟨t', st', hst', hv⟩)).2 (i.tagTx t' st' hst' k v hv ▸ htt)
  · show ∃ w ∈ c.main _ ++ pubOf c st _, _
    rw [← pub_filter_key i hst]
    rcases pubRec_cases pub r with ⟨hp, _⟩ | ⟨e, _⟩
    · exact ⟨_, List.mem_append_right _ (List.mem_filter.mpr ⟨hp, decide_eq_true rfl⟩), Nat.le_refl _, fun _ => rfl⟩
    · rw [e] at hrt ⊢
      obtain ⟨w, hw, hle⟩ := h.recMain r hr hrt
      exact ⟨w, List.mem_append_left _ hw, hle⟩

theorem RecInv.discard {c : Sys} (h : RecInv c) (t : Nat) (removed job : List Ver) : RecInv (discard c t removed job) :=
  h.shrink rfl rfl fun _ _ ht => (Option.ite_none_left_eq_some.mp ht).2

theorem RecInv.commit {c : Sys} (i : Inv c) (h : RecInv c) (t : Nat) : RecInv (c.commit t).1 :=
  commit_ind i t (fun _ => h) (fun _ => h.congr) (fun _ _ _ _ => h.discard t _ _)
    fun _ hst => h.publish i hst

theorem RecInv.rollback {c : Sys} (h : RecInv c) (t : Nat) : RecInv (c.rollback t).1 :=
  rollback_ind c t (fun _ => h) (fun _ => h.congr) fun _ _ => h.discard t _ _

theorem RecInv.gcMid {c : Sys} (i : Inv c) (h : RecInv c) : RecInv (gcMid c) := by
  refine ⟨fun k v hv => h.mainRec k v (collect_snd_sublist.subset hv), h.txRec, fun r hr hrt => ?_, h.recBound⟩
  obtain ⟨w, hw, h1, h2⟩ := h.recMain r hr hrt
  have happ := collect_append (c.main r.key) (gcHz c)
  rcases List.mem_append.mp (happ ▸ hw) with hw1 | hw2
  · -- the dominating version is collected: something of the list stays, and that is newer
    obtain ⟨x, hx⟩ := List.exists_mem_of_ne_nil _ (collect_snd_ne_nil _ (gcHz c) (List.ne_nil_of_mem hw))
    have hlt : w.seq < x.seq := (List.pairwise_append.mp (happ ▸ i.mainSorted r.key)).2.2 w hw1 x hx
    exact ⟨x, hx, Nat.le_of_lt (Nat.lt_of_le_of_lt h1 hlt), fun e => absurd (e ▸ Nat.lt_of_le_of_lt h1 hlt) (Nat.lt_irrefl _)⟩
  · exact ⟨w, hw2, h1, h2⟩

theorem RecInv.gc {c : Sys} (i : Inv c) (h : RecInv c) : RecInv (c.gc).1 := by
  rw [gc_eq]
  exact (h.gcMid i).deleteFiles (gcMid_inv i) _ (gcDels_unlinked c)

end FsDb
