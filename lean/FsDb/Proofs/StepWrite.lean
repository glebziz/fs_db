import FsDb.Proofs.Reads
/-! `Set` / `Delete` (through `core.Store`) preserve the refinement relation. -/
namespace FsDb
open Sys Spec

section fields
variable (s : Sys) (k : Key)

theorem addDom_eq : s.addDom k = { s with dom := if k ∈ s.dom then s.dom else s.dom ++ [k] } := by
  unfold Sys.addDom; split <;> rfl

theorem addDom_hasContent (cid : Nat) : (s.addDom k).hasContent cid = s.hasContent cid := by
  rw [addDom_eq]; rfl

end fields

theorem setTxStore_eq (s : Sys) (t : Nat) (st : Store) : s.setTxStore t st =
    { s with main := if t = mainTx then st else s.main
             txs := if t = mainTx then s.txs else fun t' => if t' = t then some st else s.txs t' } := by
  unfold Sys.setTxStore; split <;> rfl

theorem txStore_setTxStore (s : Sys) (t : Nat) (st : Store) (t' : Nat) :
    (s.setTxStore t st).txStore t' = if t' = t then some st else s.txStore t' := by
  rw [setTxStore_eq]
  unfold Sys.txStore
  by_cases ht : t = mainTx
  · subst ht; by_cases ht' : t' = mainTx <;> simp [ht']
  · by_cases ht' : t' = mainTx
    · subst ht'; simp [ht, Ne.symm ht]
    · simp [ht, ht']

theorem coreStore_eq (s : Sys) (t : Nat) (k : Key) (cid : Nat) (val : Option Nat) :
    s.coreStore t k cid val =
      let v : Ver := ⟨k, t, cid, s.counter + 1, val⟩
      { s with
        counter := s.counter + 1
        main := if t = mainTx then upd s.main k (s.main k ++ [v]) else s.main
        txs := if t = mainTx then s.txs else fun t' =>
          if t' = t then some (upd ((s.txs t).getD Store.empty) k (((s.txs t).getD Store.empty) k ++ [v])) else s.txs t'
        all := upd s.all k (s.all k ++ [v])
        recs := s.recs ++ [v]
        dom := if k ∈ s.dom then s.dom else s.dom ++ [k] } := by
  unfold Sys.coreStore
  rw [addDom_eq]
  -- `mainTx` is `0`: for `0` and for `n + 1` the tests `t = mainTx` compute
  cases t <;> rfl

def newVer (c : Sys) (t : Nat) (k : Key) (val : Option Nat) : Ver := ⟨k, t, c.nextCid, c.counter + 1, val⟩

/-- the state before `core.Store` runs: content id allocated, content record written (if any) -/
def preStore (c : Sys) (extra : List (Nat × Nat)) : Sys :=
  { c with nextCid := c.nextCid + 1, cfs := c.cfs ++ extra }

def afterStore (c : Sys) (extra : List (Nat × Nat)) (t : Nat) (k : Key) (val : Option Nat) : Sys :=
  (preStore c extra).coreStore t k c.nextCid val

/-! `after_<field>`: the field after the store; `after_main_<field>` / `after_tx_<field>` where it depends on
    the writer, the autocommit caller (`t = mainTx`) or a transaction. -/
section after
variable (c : Sys) (extra : List (Nat × Nat)) (t : Nat) (k : Key) (val : Option Nat)

theorem after_counter : (afterStore c extra t k val).counter = c.counter + 1 := by
  rw [afterStore, coreStore_eq]; rfl
theorem after_all : (afterStore c extra t k val).all = upd c.all k (c.all k ++ [newVer c t k val]) := by
  rw [afterStore, coreStore_eq]; rfl
theorem after_reg : (afterStore c extra t k val).reg = c.reg := by
  rw [afterStore, coreStore_eq]; rfl
theorem after_nextCid : (afterStore c extra t k val).nextCid = c.nextCid + 1 := by
  rw [afterStore, coreStore_eq]; rfl
theorem after_cfs : (afterStore c extra t k val).cfs = c.cfs ++ extra := by
  rw [afterStore, coreStore_eq]; rfl
theorem after_pending : (afterStore c extra t k val).pending = c.pending := by
  rw [afterStore, coreStore_eq]; rfl
theorem after_recs : (afterStore c extra t k val).recs = c.recs ++ [newVer c t k val] := by
  rw [afterStore, coreStore_eq]; rfl
theorem after_dom : (afterStore c extra t k val).dom = if k ∈ c.dom then c.dom else c.dom ++ [k] := by
  rw [afterStore, coreStore_eq]; rfl
theorem mem_after_dom (k' : Key) : k' ∈ (afterStore c extra t k val).dom ↔ k' ∈ c.dom ∨ k' = k :=
  after_dom c .. ▸ mem_append_new
theorem after_main_main (ht : t = mainTx) :
    (afterStore c extra t k val).main = upd c.main k (c.main k ++ [newVer c t k val]) := by
  rw [afterStore, coreStore_eq]; exact if_pos ht
theorem after_main_txs (ht : t = mainTx) : (afterStore c extra t k val).txs = c.txs := by
  rw [afterStore, coreStore_eq]; exact if_pos ht
theorem after_tx_main (ht : t ≠ mainTx) : (afterStore c extra t k val).main = c.main := by
  rw [afterStore, coreStore_eq]; exact if_neg ht
theorem after_tx_txs (ht : t ≠ mainTx) :
    (afterStore c extra t k val).txs = fun t' => if t' = t then
      some (upd ((c.txs t).getD Store.empty) k (((c.txs t).getD Store.empty) k ++ [newVer c t k val])) else c.txs t' := by
  rw [afterStore, coreStore_eq]; exact if_neg ht

theorem after_listOf (t' : Nat) (k' : Key) :
    (afterStore c extra t k val).listOf t' k' =
      if t' = t ∧ k' = k then c.listOf t k ++ [newVer c t k val] else c.listOf t' k' := by
  have h : (afterStore c extra t k val).txStore t' =
      if t' = t then some (upd (c.listOf t) k (c.listOf t k ++ [newVer c t k val])) else c.txStore t' := by
    unfold afterStore Sys.coreStore
    rw [addDom_eq]
    exact txStore_setTxStore ..
  unfold Sys.listOf
  rw [h]
  by_cases ht : t' = t
  · subst ht; by_cases hk : k' = k <;> simp [upd, hk, Sys.listOf]
  · simp [ht]

theorem after_noMainTx (h : c.txs mainTx = none) : (afterStore c extra t k val).txs mainTx = none := by
  by_cases ht : t = mainTx
  · rw [after_main_txs c extra t k val ht, h]
  · rw [after_tx_txs c extra t k val ht]; simp [Ne.symm ht, h]

end after

/-- `Set` and `Delete`: the guards, then `core.Store` after the content record -/
theorem set_eq (c : Sys) (t : Nat) (k : Key) (n : Nat) : c.set t k n =
    if (c.regGet t).isNone then (c, .err .txNotFound) else if k = "" then (c, .err .emptyKey)
    else (afterStore c [(c.nextCid, n)] t k (some n), .ok) := rfl

/-- a tombstone has no content record: `preStore` only allocates the id -/
theorem afterStore_nil (c : Sys) (t : Nat) (k : Key) :
    afterStore c [] t k none = ({ c with nextCid := c.nextCid + 1 } : Sys).coreStore t k c.nextCid none := by
  simp [afterStore, preStore]

theorem del_eq (c : Sys) (t : Nat) (k : Key) : c.del t k =
    if (c.regGet t).isNone then (c, .err .txNotFound) else (afterStore c [] t k none, .ok) := by
  rw [afterStore_nil]; rfl

theorem set_noTx {s : Sys} {t : Nat} {k : Key} {c : Nat} (h : (s.regGet t).isNone = true) :
    s.set t k c = (s, .err .txNotFound) := (set_eq ..).trans (if_pos h)

theorem set_empty {s : Sys} {t : Nat} {c : Nat} (h : ¬ (s.regGet t).isNone = true) :
    s.set t "" c = (s, .err .emptyKey) := (set_eq ..).trans ((if_neg h).trans (if_pos rfl))

theorem del_noTx {s : Sys} {t : Nat} {k : Key} (h : (s.regGet t).isNone = true) :
    s.del t k = (s, .err .txNotFound) := (del_eq ..).trans (if_pos h)

theorem mem_after_listOf {c : Sys} {extra : List (Nat × Nat)} {t : Nat} {k : Key} {val : Option Nat} {t' : Nat} {k' : Key}
    {u : Ver} : u ∈ (afterStore c extra t k val).listOf t' k' ↔
      u ∈ c.listOf t' k' ∨ (t' = t ∧ k' = k ∧ u = newVer c t k val) := by
  rw [after_listOf]
  split
  · next h =>
    obtain ⟨rfl, rfl⟩ := h
    rw [List.mem_append, List.mem_singleton, and_iff_right rfl, and_iff_right rfl]
  · next h => exact (or_iff_left fun e => h ⟨e.1, e.2.1⟩).symm

theorem live_after (c : Sys) (hno : c.txs mainTx = none) (extra : List (Nat × Nat)) (t : Nat) (k : Key) (val : Option Nat)
    (k' : Key) (u : Ver) :
    Live (afterStore c extra t k val) k' u ↔ Live c k' u ∨ (k' = k ∧ u = newVer c t k val) := by
  rw [live_iff (after_noMainTx c extra t k val hno), live_iff hno]
  simp only [mem_after_listOf, exists_or, exists_eq_left]

/-- no version refers to the fresh id, and ids below `nextCid` keep their content -/
theorem preStore_inv {c : Sys} (i : Inv c) {extra : List (Nat × Nat)} (hx : ∀ p ∈ extra, p.1 = c.nextCid) :
    Inv (preStore c extra) :=
  { i.raise (Nat.le_refl _) (Nat.le_succ _) with
    stor := fun k v hv =>
      (hasContent_append_old rfl fun p hp => hx p hp ▸ Nat.ne_of_gt (i.cid_lt hv)).trans (i.stor k v hv)
    cfsBound := List.forall_mem_append.mpr
      ⟨fun p hp => Nat.lt_succ_of_lt (i.cfsBound p hp), fun p hp => hx p hp ▸ Nat.lt_succ_self _⟩ }

theorem preStore_R {c : Sys} {s : State} {cl : List Nat} (h : Rx cl c s) (n : Nat) :
    Rx cl (preStore c [(c.nextCid, n)]) s :=
  h.congr (preStore_inv h.inv (List.forall_mem_singleton.mpr rfl))

/-- what the caller guarantees about the content record written before `core.Store` -/
def ExtraOk (c : Sys) (val : Option Nat) (extra : List (Nat × Nat)) : Prop :=
  (val = none ∧ extra = []) ∨ (∃ n, val = some n ∧ extra = [(c.nextCid, n)])

theorem ExtraOk.hasContent {c c' : Sys} {val : Option Nat} {extra : List (Nat × Nat)} (hx : ExtraOk c val extra)
    (hb : ∀ p ∈ c.cfs, p.1 < c.nextCid) (h : c'.cfs = c.cfs ++ extra) : c'.hasContent c.nextCid = val := by
  have hnone := Option.map_eq_none_iff.mp (hasContent_eq_none.mpr fun p hp => Nat.ne_of_lt (hb p hp))
  rw [Sys.hasContent, h, List.find?_append, hnone]
  rcases hx with ⟨rfl, rfl⟩ | ⟨n, rfl, rfl⟩ <;> simp

/-- the new version carries the fresh number `counter + 1` and the fresh content id `nextCid`, above
    everything there is -/
theorem afterStore_inv {c : Sys} (i : Inv c) (extra : List (Nat × Nat)) (t : Nat) (k : Key) (val : Option Nat)
    (ht : t = mainTx ∨ ∃ r ∈ c.reg, r.id = t) (hx : ExtraOk c val extra) :
    Inv (afterStore c extra t k val) := by
  have hno := after_noMainTx c extra t k val i.noMainTx
  have hreg := after_reg c extra t k val
  have i1 : Inv (preStore c extra) := preStore_inv i (by rcases hx with ⟨_, rfl⟩ | ⟨n, _, rfl⟩ <;> simp)
  have hcid : ∀ k', ∀ u ∈ c.all k', u.cid ≠ c.nextCid := fun k' u hu => Nat.ne_of_lt (i.cid_lt hu)
  -- a linked version is an old one or the new one
  have hall : ∀ {P : Key → Ver → Prop}, (∀ k', ∀ u ∈ c.all k', P k' u) → P k (newVer c t k val) →
      ∀ k', ∀ u ∈ (afterStore c extra t k val).all k', P k' u := by
    intro P ho hn k' u hu
    rw [after_all] at hu
    rcases mem_upd_append.mp hu with hu | ⟨rfl, rfl⟩
    · exact ho k' u hu
    · exact hn
  have hsorted := (lists_iff hno (P := fun _ _ l => SortedSeq l) fun _ _ => .nil).mp fun t' k' => by
    rw [after_listOf]
    split
    · exact (i.listSorted t k).concat fun u hu => i.seq_lt_next (i.listOf_sub_all hu)
    · exact i.listSorted t' k'
  have htag := (lists_iff hno (P := fun t' _ l => ∀ u ∈ l, u.tx = t') (by simp)).mp fun t' k' u hu =>
    (mem_after_listOf.mp hu).elim i.listTag fun ⟨e, _, eu⟩ => by rw [eu, e]; rfl
  have hown := (lists_iff hno (P := fun t' _ l => ∀ r ∈ c.reg, r.id = t' → ∀ u ∈ l, r.seq < u.seq) (by simp)).mp
    fun t' k' r hr e u hu => (mem_after_listOf.mp hu).elim (fun hu => i.listOwn hr (e ▸ hu))
      fun ⟨_, _, eu⟩ => eu ▸ Nat.lt_succ_of_le (i.regBound r hr).2
  exact {
    mainSorted := hsorted.1
    txSorted := hsorted.2
    allSorted := fun k' => by
      rw [after_all]
      by_cases hk : k' = k
      · subst hk; rw [upd_same]; exact (i.allSorted k').concat fun _ => i.seq_lt_next
      · rw [upd_other hk]; exact i.allSorted k'
    allMem := fun k' u => by rw [live_after c i.noMainTx, ← i.allMem, after_all]; exact mem_upd_append
    bounds := by
      rw [after_counter, after_nextCid]
      exact hall (fun k' u hu => (i.bounds k' u hu).imp_right (And.imp Nat.le_succ_of_le (And.imp_left Nat.lt_succ_of_lt)))
        ⟨Nat.succ_pos _, Nat.le_refl _, Nat.lt_succ_self _, rfl⟩
    -- two old versions; an old and the new one: the new content id is fresh; twice the new one
    cidUnique := fun k1 k2 u1 u2 h1 h2 =>
      hall (P := fun _ u1 => ∀ k2, ∀ u2 ∈ (afterStore c extra t k val).all k2, u1.cid = u2.cid → u1 = u2)
        (fun k1 u1 h1 => hall (fun k2 u2 h2 => i.cidUnique k1 k2 u1 u2 h1 h2) fun he => absurd he (hcid k1 u1 h1))
        (hall (fun k2 u2 h2 he => absurd he.symm (hcid k2 u2 h2)) fun _ => rfl) k1 u1 h1 k2 u2 h2
    regIds := hreg.symm ▸ i.regIds
    regMain := hreg.symm ▸ i.regMain
    regSorted := hreg.symm ▸ i.regSorted
    regBound := by
      rw [hreg, after_counter]
      exact fun r hr => (i.regBound r hr).imp_right Nat.le_succ_of_le
    -- a store that is new belongs to `t`
    txsReg := fun t' st hst => by
      refine ⟨fun e => by simp [e, hno] at hst, hreg.symm ▸ ?_⟩
      by_cases htm : t = mainTx
      · exact (i.txsReg t' st (after_main_txs c extra t k val htm ▸ hst)).2
      · rw [after_tx_txs c extra t k val htm] at hst
        by_cases htt : t' = t
        · exact htt ▸ ht.resolve_left htm
        · exact (i.txsReg t' st (by simpa [htt] using hst)).2
    ownAfter := fun r hr st hst k' => hown.2 r.id st hst k' r (hreg ▸ hr) rfl
    beginNotVer := fun r hr =>
      hall (i.beginNotVer r (hreg ▸ hr)) (Nat.ne_of_gt (Nat.lt_succ_of_le (i.regBound r (hreg ▸ hr)).2))
    stor := hall (fun k' u hu => (hasContent_congr (after_cfs c ..) _).trans (i1.stor k' u hu))
      (hx.hasContent i.cfsBound (after_cfs c ..))
    cfsBound := by rw [after_cfs, after_nextCid]; exact i1.cfsBound
    pendDead := by
      rw [after_pending]
      exact fun job hj v hv => hall (i.pendDead job hj v hv) (Nat.ne_of_gt (i.pendBound job hj v hv))
    pendBound := by rw [after_pending, after_nextCid]; exact i1.pendBound
    domAll := fun k' hne => (mem_after_dom c ..).mpr <| Classical.or_iff_not_imp_right.mpr fun hk =>
      i.domAll k' fun e => hne (by rw [after_all, upd_other hk]; exact e)
    domNodup := (after_dom c ..).symm ▸ nodup_append_new i.domNodup k
    tagMain := htag.1
    tagTx := htag.2 }

theorem addDom_dom_eq {c : Sys} {s : State} (h : s.dom = c.dom) (extra : List (Nat × Nat)) (t : Nat) (k : Key)
    (val : Option Nat) : (Spec.addDom s k).dom = (afterStore c extra t k val).dom := by
  rw [after_dom, ← h, Spec.addDom_dom]

theorem after_own {c : Sys} {s : State} {cl : List Nat} (h : Rx cl c s) (extra : List (Nat × Nat)) (t : Nat) (k : Key)
    (val : Option Nat) {x : STx} (hx : x ∈ s.open_) (k' : Key) :
    ((afterStore c extra t k val).ownLatest x.id k').map absV =
      if x.id = t ∧ k' = k then some ⟨s.clock + 1, val⟩ else x.own k' := by
  rw [ownLatest_eq, after_listOf]
  split
  · simp [Sys.latest, absV, newVer, h.clock]
  · rw [h.own x hx k', ownLatest_eq]

theorem write_main_R {c : Sys} {s : State} {cl : List Nat} (h : Rx cl c s) (extra : List (Nat × Nat)) (k : Key)
    (val : Option Nat) (hx : ExtraOk c val extra) :
    Agree (Rx cl) (afterStore c extra mainTx k val, .ok) (Spec.write s mainTx k val) := by
  rw [Spec.write_main]
  dsimp only [Agree]
  refine ⟨rfl, afterStore_inv h.inv extra mainTx k val (Or.inl rfl) hx, by simp [after_counter, h.clock],
    addDom_dom_eq h.dom .., by rw [after_reg]; exact h.reg, fun x hx' k' => ?_, fun k' => ?_, fun k' hne => ?_⟩
  · have hne : ¬ (x.id = mainTx ∧ k' = k) := fun e => h.inv.regMain _ (h.mem_reg_of_open hx') e.1
    exact ((after_own h extra mainTx k val hx' k').trans (if_neg hne)).symm
  · show HistRel _ _ _
    dsimp only
    rw [after_main_main c extra mainTx k val rfl, after_reg]
    by_cases hk : k' = k
    · subst hk
      rw [if_pos rfl, upd_same]
      exact h.clock ▸ (h.histRel k').push (newVer c mainTx k' val) fun u hu =>
        h.inv.seq_lt_next (h.inv.main_sub_all hu)
    · rw [if_neg hk, upd_other hk]; exact h.hist k'
  · rw [mem_after_dom]
    by_cases hk : k' = k
    · exact Or.inr hk
    · exact Or.inl (h.histDom k' (by simpa [hk] using hne))

theorem write_tx_R {c : Sys} {s : State} {cl : List Nat} (h : Rx cl c s) (extra : List (Nat × Nat)) (t : Nat) (k : Key)
    (val : Option Nat) (hx : ExtraOk c val extra) (ht : t ≠ mainTx) {x : STx} (hf : find s t = some x) :
    Agree (Rx cl) (afterStore c extra t k val, .ok) (Spec.write s t k val) := by
  obtain ⟨hxo, hxid⟩ := Spec.find_mem hf
  rw [Spec.write_open ht hf]
  dsimp only [Agree]
  refine ⟨rfl, afterStore_inv h.inv extra t k val (Or.inr ⟨_, h.mem_reg_of_open hxo, hxid⟩) hx,
    by simp [after_counter, h.clock], addDom_dom_eq h.dom .., ?_, fun z hz k' => ?_, fun k' => ?_,
    fun k' hne => (mem_after_dom c ..).mpr (Or.inl (h.histDom k' hne))⟩
  · rw [after_reg, ← h.reg]
    show (s.open_.map _).map _ = _
    rw [List.map_map]
    exact List.map_congr_left fun z _ => by simp only [Function.comp, putOwn_id, putOwn_level, putOwn_beginStamp]
  · obtain ⟨z0, hz0, rfl⟩ := List.mem_map.mp hz
    rw [Spec.putOwn_own, Spec.putOwn_id]
    exact (after_own h extra t k val hz0 k').symm
  · rw [after_tx_main c extra t k val ht, after_reg]
    exact h.hist k'

theorem write_R {c : Sys} {s : State} {cl : List Nat} (h : Rx cl c s) (extra : List (Nat × Nat)) (t : Nat) (k : Key)
    (val : Option Nat) (hx : ExtraOk c val extra) (hctx : ¬ (ctxOf s t).isNone = true) :
    Agree (Rx cl) (afterStore c extra t k val, .ok) (Spec.write s t k val) := by
  by_cases htm : t = mainTx
  · exact htm ▸ write_main_R h extra k val hx
  · cases hf : find s t with
    | none => exact absurd (Option.isNone_iff_eq_none.mpr (ctxOf_eq_none.mpr ⟨htm, hf⟩)) hctx
    | some x => exact write_tx_R h extra t k val hx htm hf

theorem step_set {c : Sys} {s : State} {cl : List Nat} (h : Rx cl c s) (t : Nat) (k : Key) (n : Nat) :
    Agree (Rx cl) (c.set t k n) (Spec.set s t k n) := by
  rw [set_eq, Spec.set, h.regGet_isNone t]
  split
  · exact ⟨rfl, h⟩
  split
  · exact ⟨rfl, h⟩
  · next h0 _ => exact write_R h [(c.nextCid, n)] t k (some n) (Or.inr ⟨n, rfl, rfl⟩) h0

theorem step_del {c : Sys} {s : State} {cl : List Nat} (h : Rx cl c s) (t : Nat) (k : Key) :
    Agree (Rx cl) (c.del t k) (Spec.write s t k none) := by
  rw [del_eq, h.regGet_isNone t]
  split
  · next h0 =>
    -- an unknown transaction: the specification's `write` refuses too
    obtain ⟨htm, hf⟩ := ctxOf_eq_none.mp (Option.isNone_iff_eq_none.mp h0)
    rw [Spec.write_closed htm hf]
    exact ⟨rfl, h⟩
  · next h0 => exact write_R h [] t k none (Or.inl ⟨rfl, rfl⟩) h0

end FsDb
