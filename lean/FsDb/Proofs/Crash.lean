import FsDb.Proofs.Reopen
/-!
  Crash points.  An operation changes the persistent store (Badger `file/` records = `recs`,
  `fileContent/` records + content files = `cfs`) by a sequence of mutations, and the process can
  die between any two.  `crashPoints c op` lists the states in which the store can then be found
  (the volatile fields do not matter: a fresh process rebuilds them).  `crashPoints_ok`: each is
  related to the specification state before the operation or to the one after it, never to a part.

  Mutation order modelled (and tied by the skeleton texts of store.Set, core.Store, UpdateTx,
  cleaner.deleteFile and by the crash-point enumeration on the real code):
    Set      : content file complete → fileContent record → version record
    Delete   : version record
    Commit   : one Badger transaction re-tagging all published records (atomic)
    deleteFile (collector, worker pool, recovery): content file + fileContent record → version record
    Begin / Rollback / Get / GetKeys / Load: no persistent mutation (deletions are handed to the pool)
-/
namespace FsDb
open Sys Spec

/-- the two halves of `cleaner.deleteFile` -/
def delCf (s : Sys) (v : Ver) : Sys := { s with cfs := s.cfs.filter (·.1 ≠ v.cid) }
def delRec (s : Sys) (v : Ver) : Sys := { s with recs := s.recs.filter (·.cid ≠ v.cid) }

/-- the states a deletion run passes through -/
def delPoints (s : Sys) : List Ver → List Sys
  | [] => [s]
  | v :: vs =>
    match s.hasContent v.cid with
    | none => delPoints s vs
    | some _ => s :: delCf s v :: delPoints (delRec (delCf s v) v) vs

def jobsPoints (s : Sys) : List (List Ver) → List Sys
  | [] => [s]
  | j :: js => delPoints s j ++ jobsPoints (s.deleteFiles j) js

def crashPoints (c : Sys) : Op → List Sys
  | .set t k n =>
    if (c.regGet t).isNone ∨ k = "" then [c]
    else [c, preStore c [(c.nextCid, n)], (c.set t k n).1]
  | .gc => c :: delPoints (gcMid c) (gcDels c)
  | .drain => jobsPoints c c.pending ++ [(c.drain).1]
  | op => [c, (c.step op).1]     -- one mutation (Delete, Commit's batch) or none

def CrashOk (s s' : State) (p : Sys) : Prop := (R p s ∨ R p s') ∧ RecInv p

theorem delPoints_ok {c : Sys} {a : State} (h : R c a) (ri : RecInv c) (vs : List Ver)
    (hd : ∀ v ∈ vs, Unlinked c.all v) :
    ∀ p ∈ delPoints c vs, R p a ∧ RecInv p := by
  induction vs generalizing c with
  | nil => exact List.forall_mem_singleton.mpr ⟨h, ri⟩
  | cons v vs ih =>
    have hdv := hd v List.mem_cons_self
    have hd1 : ∀ u ∈ [v], Unlinked c.all u := fun u hu => List.mem_singleton.mp hu ▸ hdv
    -- after the whole `deleteFile` the rest of the run starts from a state like `c`
    have hrest := ih (deleteFiles_R h [v] hd1) (ri.deleteFiles h.inv [v] hd1)
      (fun u hu k w hw => hd u (List.mem_cons_of_mem _ hu) k w (delOne_all c v ▸ hw))
    unfold delPoints
    rcases delOne_cases c v with ⟨hn, e⟩ | ⟨hs, e⟩
    · rw [hn]
      exact e ▸ hrest
    · obtain ⟨n, hn⟩ := Option.ne_none_iff_exists'.mp hs
      rw [hn]
      -- between the two halves: `Inv` does not look at the version records
      have icf : Inv (delCf c v) := (e ▸ delOne_inv h.inv v hdv).setRecs c.recs
      have e' : delRec (delCf c v) v = c.deleteFiles [v] := e.symm
      exact List.forall_mem_cons.mpr ⟨⟨h, ri⟩, List.forall_mem_cons.mpr
        ⟨⟨h.congr icf, ri.congr⟩, e' ▸ hrest⟩⟩

theorem jobsPoints_ok {c : Sys} {a : State} (h : R c a) (ri : RecInv c) (jobs : List (List Ver))
    (hd : ∀ job ∈ jobs, ∀ v ∈ job, Unlinked c.all v) :
    ∀ p ∈ jobsPoints c jobs, R p a ∧ RecInv p := by
  induction jobs generalizing c with
  | nil => exact List.forall_mem_singleton.mpr ⟨h, ri⟩
  | cons j js ih =>
    have hdj := hd j List.mem_cons_self
    exact List.forall_mem_append.mpr ⟨delPoints_ok h ri j hdj, ih (deleteFiles_R h j hdj) (ri.deleteFiles h.inv j hdj)
      fun job hj v hv k w hw => hd job (List.mem_cons_of_mem _ hj) v hv k w (deleteFiles_all c j ▸ hw)⟩

theorem crashPoints_ok {c : Sys} {s : State} (h : R c s) (ri : RecInv c) (op : Op) (hop : op.total = true) :
    ∀ p ∈ crashPoints c op, CrashOk s (Spec.step s op).1 p := by
  have hend : CrashOk s (Spec.step s op).1 (c.step op).1 :=
    ⟨Or.inr (Refine.step_all h ri op hop).2.1, (Refine.step_all h ri op hop).2.2⟩
  have hstart : CrashOk s (Spec.step s op).1 c := ⟨Or.inl h, ri⟩
  have hboth := List.forall_mem_cons.mpr ⟨hstart, List.forall_mem_singleton.mpr hend⟩
  cases op with
  | set t k n =>
    dsimp only [crashPoints]
    split
    · exact List.forall_mem_singleton.mpr hstart
    · exact List.forall_mem_cons.mpr ⟨hstart, List.forall_mem_cons.mpr
        ⟨⟨Or.inl (preStore_R h n), ri.congr (h4 := Nat.le_succ _)⟩,
          List.forall_mem_singleton.mpr hend⟩⟩
  | gc =>
    exact List.forall_mem_cons.mpr ⟨hstart, fun p hp =>
      have := delPoints_ok (gcMid_R h) (ri.gcMid h.inv) (gcDels c) (gcDels_unlinked c) p hp
      ⟨Or.inr this.1, this.2⟩⟩
  | drain =>
    exact List.forall_mem_append.mpr ⟨fun p hp =>
      have := jobsPoints_ok h ri c.pending h.inv.pendDead p hp
      ⟨Or.inl this.1, this.2⟩, List.forall_mem_singleton.mpr hend⟩
  | _ => exact hboth

end FsDb
