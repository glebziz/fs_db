import FsDb.Proofs.StepClean
/-! The collector (`cleaner.DeleteOld`) is invisible.  Its horizon step (`gcDraw`, `gcDrawX`) only advances the
    counter: a tick.  `collectAt c hz` is `core.DeleteOld(main, hz)` at an ARBITRARY horizon (in the small-step
    model, C06, the horizon was computed earlier, under the horizon lock, and may be stale when the lists are
    collected): it preserves `Rx` as long as no transaction that still reads began before `hz` (`SafeHz`).
    The physical deletions are `deleteFiles` of dead versions. -/
namespace FsDb
open Sys Spec

def SafeHz (cl : List Nat) (c : Sys) (hz : Nat) : Prop := ∀ r ∈ c.reg, r.id ∉ cl → hz ≤ r.seq

theorem mem_delsAt {c : Sys} (i : Inv c) (hz : Nat) (v : Ver) :
    v ∈ delsAt c hz ↔ ∃ k, v ∈ (collect (c.main k) hz).1 := by
  unfold delsAt
  rw [List.mem_flatMap]
  refine ⟨fun ⟨k, _, hv⟩ => ⟨k, hv⟩, fun ⟨k, hv⟩ => ⟨k, i.mem_dom (i.main_sub_all (collect_fst_sublist.subset hv)), hv⟩⟩

theorem mem_collectAt_all {c : Sys} (i : Inv c) (hz : Nat) (k : Key) (u : Ver) :
    u ∈ (collectAt c hz).all k ↔ u ∈ c.all k ∧ ∀ k', u ∉ (collect (c.main k') hz).1 := by
  show u ∈ removeLinks c.all (delsAt c hz) k ↔ _
  rw [mem_removeLinks]
  refine and_congr_right fun hu => ⟨fun hne k' hk' => hne u ((mem_delsAt i hz u).mpr ⟨k', hk'⟩) rfl, ?_⟩
  intro hne v hv he
  obtain ⟨k', hk'⟩ := (mem_delsAt i hz v).mp hv
  cases i.cidUnique k' k v u (i.main_sub_all (collect_fst_sublist.subset hk')) hu he
  exact hne k' hk'

theorem collectAt_live {c : Sys} (i : Inv c) (hz : Nat) (k : Key) (u : Ver) :
    u ∈ (collectAt c hz).all k ↔ Live (collectAt c hz) k u := by
  rw [mem_collectAt_all i hz]
  show _ ↔ (u ∈ (collect (c.main k) hz).2 ∨ ∃ t st, c.txs t = some st ∧ u ∈ st k)
  constructor
  · rintro ⟨hu, hne⟩
    refine ((i.allMem k u).mp hu).imp_left fun hm => ?_
    rw [← collect_append (c.main k) hz] at hm
    exact (List.mem_append.mp hm).resolve_left (hne k)
  · rintro (hm | ⟨t, st, hst, hu⟩)
    · have hmain := collect_snd_sublist.subset hm
      refine ⟨i.main_sub_all hmain, fun k' hk' => ?_⟩
      -- collected under `k'`: then `k' = k`, and a sorted list has no element on both sides of a cut
      have hmain' := collect_fst_sublist.subset hk'
      rw [i.key_unique (i.main_sub_all hmain') (i.main_sub_all hmain)] at hk'
      exact (collect_append (c.main k) hz ▸ i.mainSorted k).disjoint_append hk' hm
    · exact ⟨i.tx_sub_all hst hu, fun k' hk' => i.main_tx_disjoint (collect_fst_sublist.subset hk') hst hu⟩

theorem collectAt_inv {c : Sys} (i : Inv c) (hz : Nat) : Inv (collectAt c hz) :=
  i.shrink (fun _ => collect_snd_sublist) (fun _ _ h => h) (fun _ => List.filter_sublist)
    (collectAt_live i hz) (List.Sublist.refl _) (fun t st h => (i.txsReg t st h).2) (fun _ h => Or.inl h)

theorem collectAt_R {c : Sys} {s : State} {cl : List Nat} (h : Rx cl c s) {hz : Nat} (hsafe : SafeHz cl c hz) :
    Rx cl (collectAt c hz) s := by
  have i := h.inv
  refine ⟨collectAt_inv i hz, h.clock, h.dom, h.reg, fun x hx k => ?_, fun k => ?_, h.histDom⟩
  · exact h.own_of_txs hx k rfl
  · refine (h.histRel k).drop (collect_append (c.main k) hz).symm (i.mainSorted k) fun hne => ?_
    -- the oldest version left is at most the horizon, and no begin number is a version number
    obtain ⟨hd, hh, hle⟩ := collect_head_le (c.main k) hz hne
    refine ⟨hd, hh, fun r hr hrc => ?_⟩
    have hd' := i.main_sub_all (collect_snd_sublist.subset (List.mem_of_head? hh))
    have := i.beginNotVer r hr k hd hd'
    have := hsafe r hr hrc
    omega

theorem delsAt_unlinked (c : Sys) (hz : Nat) : ∀ v ∈ delsAt c hz, Unlinked (collectAt c hz).all v :=
  fun v hv _ _ hw e => (mem_removeLinks.mp hw).2 v hv e.symm

theorem delsAt_dead {c : Sys} (i : Inv c) (hz : Nat) :
    ∀ v ∈ delsAt c hz, Unlinked (collectAt c hz).all v ∧ v.cid < c.nextCid := by
  intro v hv
  refine ⟨delsAt_unlinked c hz v hv, ?_⟩
  obtain ⟨k, hk⟩ := (mem_delsAt i hz v).mp hv
  exact i.cid_lt (i.main_sub_all (collect_fst_sublist.subset hk))

theorem Inv.tick {c : Sys} (i : Inv c) (n : Nat) : Inv (c.tick n) :=
  i.raise (Nat.le_max_left _ _) (Nat.le_refl _)

theorem Rx.tick {c : Sys} {s : State} {cl : List Nat} (h : Rx cl c s) (n : Nat) : Rx cl (c.tick n) (Spec.tick s n) :=
  ⟨h.inv.tick n, congrArg (max · n) h.clock, h.dom, h.reg, h.own, h.hist, h.histDom⟩

theorem Sys.tick_self (c : Sys) : c.tick c.counter = c := by
  cases c; simp [Sys.tick]

theorem gcDrawX_tick (c : Sys) (cl : List Nat) : gcDrawX c cl = c.tick (gcDrawX c cl).counter := by
  unfold gcDrawX
  cases (liveReg c cl).head? with
  | some _ => exact c.tick_self.symm
  | none => simp [Sys.tick, Nat.max_eq_right (Nat.le_succ _)]

theorem liveReg_head {c : Sys} (i : Inv c) {cl : List Nat} {tx : TxRec} (h : (liveReg c cl).head? = some tx) :
    tx ∈ c.reg ∧ SafeHz cl c tx.seq := by
  obtain ⟨rest, hl⟩ := List.head?_eq_some_iff.mp h
  have hm := List.mem_filter.mp (show tx ∈ liveReg c cl by rw [hl]; exact List.mem_cons_self)
  refine ⟨hm.1, fun r hr hrc => ?_⟩
  have hr' : r ∈ liveReg c cl := List.mem_filter.mpr ⟨hr, by simpa using hrc⟩
  rw [hl] at hr'
  rcases List.mem_cons.mp hr' with rfl | hin
  · exact Nat.le_refl _
  · have hs : (tx :: rest).Pairwise (fun a b => a.seq < b.seq) := hl ▸ i.regSorted.filter _
    exact Nat.le_of_lt (List.rel_of_pairwise_cons hs hin)

theorem liveReg_none {c : Sys} {cl : List Nat} (h : (liveReg c cl).head? = none) : ∀ r ∈ c.reg, r.id ∈ cl := by
  intro r hr
  simpa using List.filter_eq_nil_iff.mp (List.head?_eq_none_iff.mp h) r hr

theorem gcHzX_safe {c : Sys} (i : Inv c) (cl : List Nat) :
    SafeHz cl (gcDrawX c cl) (gcHzX c cl) ∧ gcHzX c cl ≤ (gcDrawX c cl).counter := by
  unfold gcDrawX gcHzX SafeHz
  cases hhead : (liveReg c cl).head? with
  | some tx =>
    obtain ⟨hm, hmin⟩ := liveReg_head i hhead
    exact ⟨hmin, (i.regBound tx hm).2⟩
  | none => exact ⟨fun r hr hrc => absurd (liveReg_none hhead r hr) hrc, Nat.le_refl _⟩

/-- the horizon step as two entries of the log: the collector's own entry (on which the
    specification draws a number exactly when no transaction is open) and the counter's value after
    the step -/
theorem gcDrawX_R {c : Sys} {s : State} {cl : List Nat} (h : Rx cl c s) :
    Rx cl (gcDrawX c cl) (Spec.tick (Spec.step s .gc).1 (gcDrawX c cl).counter) := by
  have hn : s.open_.isEmpty → s.clock + 1 ≤ (gcDrawX c cl).counter := by
    intro he
    rw [h.open_isEmpty, Option.isNone_iff_eq_none, List.head?_eq_none_iff] at he
    simp [gcDrawX, liveReg, he, h.clock]
  rw [Spec.tick_step_gc s hn]
  have e := gcDrawX_tick c cl
  generalize (gcDrawX c cl).counter = n at e ⊢
  exact e ▸ h.tick n

theorem liveReg_nil (c : Sys) : liveReg c [] = c.reg := by simp [liveReg]

theorem gcDraw_eq (c : Sys) : gcDraw c = gcDrawX c [] := by unfold gcDraw gcDrawX; rw [liveReg_nil]

theorem gcHz_eq (c : Sys) : gcHz c = gcHzX c [] := by unfold gcHz gcHzX; rw [liveReg_nil]

theorem gcHz_cases (c : Sys) : (∃ tx ∈ c.reg, gcHz c = tx.seq) ∨ c.reg = [] ∧ gcHz c = c.counter + 1 := by
  unfold gcHz
  cases hh : c.reg.head? with
  | some tx => exact .inl ⟨tx, List.mem_of_mem_head? hh, rfl⟩
  | none => exact .inr ⟨List.head?_eq_none_iff.mp hh, rfl⟩

theorem gcDraw_tick (c : Sys) : gcDraw c = c.tick (gcDraw c).counter := gcDraw_eq c ▸ gcDrawX_tick c []

theorem gcHz_safe {c : Sys} (i : Inv c) (cl : List Nat) : SafeHz cl (gcDraw c) (gcHz c) ∧ gcHz c ≤ (gcDraw c).counter := by
  rw [gcDraw_eq, gcHz_eq]
  exact ⟨fun r hr _ => (gcHzX_safe i []).1 r hr (by simp), (gcHzX_safe i []).2⟩

theorem gcDraw_R {c : Sys} {s : State} {cl : List Nat} (h : Rx cl c s) : Rx cl (gcDraw c) (Spec.step s .gc).1 := by
  have e : (Spec.step s .gc).1 = Spec.tick s (gcDraw c).counter := by
    show (if s.open_.isEmpty then { s with clock := s.clock + 1 } else s) = _
    rw [h.open_isEmpty]
    unfold gcDraw
    cases c.reg.head? with
    | some _ => simp [← h.clock, Spec.tick_self]
    | none => simp [Spec.tick, h.clock]
  have e' := gcDraw_tick c
  rw [e]
  generalize (gcDraw c).counter = n at e' ⊢
  exact e' ▸ h.tick n

/-- `gcDels c` and `gcMid c` are the sequential pass's names for `delsAt c (gcHz c)` (by definition) and
    `collectAt (gcDraw c) (gcHz c)` (`gcMid_eq`); `Sys.gc` deletes the one in the other (`gc_eq`). -/
def gcDels (c : Sys) : List Ver := c.dom.flatMap (fun k => (collect (c.main k) (gcHz c)).1)

/-- the state after the logical part of a collection pass (lists updated, nothing deleted yet) -/
def gcMid (c : Sys) : Sys :=
  { c with counter := (match c.reg.head? with | some _ => c.counter | none => c.counter + 1),
           main := fun k => (collect (c.main k) (gcHz c)).2,
           all := removeLinks c.all (gcDels c) }

theorem gcMid_eq (c : Sys) : gcMid c = collectAt (gcDraw c) (gcHz c) := by
  unfold gcMid gcDraw collectAt gcDels delsAt
  cases c.reg.head? <;> rfl

theorem gc_eq (c : Sys) : (c.gc).1 = (gcMid c).deleteFiles (gcDels c) := by
  unfold Sys.gc gcMid gcDels gcHz
  cases c.reg.head? <;> rfl

theorem gc_reg (c : Sys) : (c.gc).1.reg = c.reg := gc_eq c ▸ deleteFiles_reg (gcMid c) _
theorem gc_pending (c : Sys) : (c.gc).1.pending = c.pending := gc_eq c ▸ deleteFiles_pending (gcMid c) _
theorem gc_main (c : Sys) : (c.gc).1.main = fun k => (collect (c.main k) (gcHz c)).2 := gc_eq c ▸ deleteFiles_main (gcMid c) _

theorem gcMid_inv {c : Sys} (i : Inv c) : Inv (gcMid c) := by
  have iD : Inv (gcDraw c) := gcDraw_tick c ▸ i.tick (gcDraw c).counter
  exact gcMid_eq c ▸ collectAt_inv iD (gcHz c)

theorem gcMid_R {c : Sys} {s : State} {cl : List Nat} (h : Rx cl c s) : Rx cl (gcMid c) (Spec.step s .gc).1 :=
  gcMid_eq c ▸ collectAt_R (gcDraw_R h) (gcHz_safe h.inv cl).1

theorem gcDels_unlinked (c : Sys) : ∀ v ∈ gcDels c, Unlinked (gcMid c).all v :=
  delsAt_unlinked c (gcHz c)

theorem step_gc {c : Sys} {s : State} {cl : List Nat} (h : Rx cl c s) :
    Agree (Rx cl) c.gc (Spec.step s .gc) := by
  refine ⟨rfl, ?_⟩
  rw [gc_eq]
  exact deleteFiles_R (gcMid_R h) _ (gcDels_unlinked c)

end FsDb
