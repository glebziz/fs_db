import FsDb.Proofs.VFile
import FsDb.Proofs.SpecInv
/-! Basic lemmas for the refinement proof: `latest`, `newer`, `lastBefore`, the abstraction `absV` of versions,
    and the stores seen uniformly (`Sys.listOf`). -/
namespace FsDb
open Sys Spec

def absV (v : Ver) : SVer := ⟨v.seq, v.val⟩

@[simp] theorem absV_stamp (v : Ver) : (absV v).stamp = v.seq := rfl
@[simp] theorem absV_val (v : Ver) : (absV v).val = v.val := rfl

theorem newer_eq : Sys.newer = newerBy Ver.seq := by
  funext a b; cases a <;> cases b <;> rfl

theorem newer_of_le {a b : Option Ver} (h : OptLe Ver.seq a b) : Sys.newer a b = b := by
  rcases a with _ | x
  · rfl
  · obtain ⟨y, rfl, hxy⟩ := h x rfl
    exact if_neg (Nat.not_lt.mpr hxy)

theorem newer_of_gt {x : Ver} {b : Option Ver} (h : ∀ y, b = some y → y.seq < x.seq) : Sys.newer (some x) b = some x := by
  rcases b with _ | y
  · rfl
  · exact if_pos (h y rfl)

theorem newer_self (a : Option Ver) : Sys.newer a a = a := newer_of_le (.refl a)

theorem newer_cases (a b : Option Ver) : Sys.newer a b = a ∨ Sys.newer a b = b :=
  newer_eq ▸ newerBy_cases a b

theorem newer_map_absV (a b : Option Ver) :
    (Sys.newer a b).map absV = newerS (a.map absV) (b.map absV) := by
  rw [newer_eq, newerS_eq]; exact newerBy_map (g := SVer.stamp) absV fun _ _ _ _ => Iff.rfl

theorem lastBefore_eq_spec {l : List Ver} (h : SortedSeq l) (b : Nat) :
    Sys.lastBefore l b = lastBeforeSpec l b :=
  guardedBsearch_eq_spec h b

theorem lastBefore_mem {l : List Ver} (hs : SortedSeq l) {b : Nat} {v : Ver}
    (h : Sys.lastBefore l b = some v) : v ∈ l ∧ v.seq < b := by
  rw [lastBefore_eq_spec hs] at h
  exact lastBeforeSpec_mem h

theorem latest_mem {l : List Ver} {v : Ver} (h : Sys.latest l = some v) : v ∈ l :=
  List.mem_of_getLast? h

theorem latest_max {l : List Ver} (hs : SortedSeq l) {v : Ver} (h : Sys.latest l = some v) :
    ∀ u ∈ l, u.seq ≤ v.seq :=
  le_getLast? hs h

theorem latest_none {l : List Ver} (h : Sys.latest l = none) : l = [] :=
  List.getLast?_eq_none_iff.mp h

theorem latest_ge {l : List Ver} (hs : SortedSeq l) {w : Ver} (hw : w ∈ l) :
    ∃ x, Sys.latest l = some x ∧ w.seq ≤ x.seq := by
  cases hx : Sys.latest l with
  | none => exact absurd hw (latest_none hx ▸ List.not_mem_nil)
  | some x => exact ⟨x, rfl, latest_max hs hx w hw⟩

theorem mem_dropLast_or_last {l : List Ver} {v : Ver} :
    v ∈ l ↔ v ∈ l.dropLast ∨ Sys.latest l = some v := by
  rcases List.eq_nil_or_concat l with rfl | ⟨l', b, rfl⟩
  · simp [Sys.latest]
  · simp [Sys.latest, eq_comm]

theorem latest_not_mem_dropLast {l : List Ver} (hs : SortedSeq l) {v : Ver} (h : Sys.latest l = some v) :
    v ∉ l.dropLast := by
  obtain ⟨l', rfl⟩ := List.getLast?_eq_some_iff.mp h
  rw [List.dropLast_concat]
  exact fun hv => hs.disjoint_append hv (List.mem_singleton_self v)

theorem toList_latest (o : Option Ver) : o.toList = (Sys.latest o.toList).toList := by
  cases o <;> rfl

theorem upd_same (f : Store) (k : Key) (l : List Ver) : upd f k l k = l := by simp [upd]

theorem upd_other {f : Store} {k k' : Key} {l : List Ver} (h : k' ≠ k) : upd f k l k' = f k' := by
  simp [upd, h]

theorem mem_upd_append {f : Store} {k k' : Key} {u v : Ver} :
    u ∈ upd f k (f k ++ [v]) k' ↔ u ∈ f k' ∨ (k' = k ∧ u = v) := by
  by_cases hk : k' = k
  · subst hk; simp [upd_same]
  · simp [upd_other hk, hk]

/-- In the code the main store is `txStore[MainTxId]`; the model keeps it in a field of its own.  `listOf`
    puts the two together again, so that a fact about main and every transaction's store is one clause
    (`lists_iff`). -/
def Sys.listOf (c : Sys) (t : Nat) (k : Key) : List Ver := ((c.txStore t).getD Store.empty) k

theorem listOf_main (c : Sys) (k : Key) : c.listOf mainTx k = c.main k := rfl

theorem listOf_tx {c : Sys} {t : Nat} (ht : t ≠ mainTx) (k : Key) :
    c.listOf t k = ((c.txs t).getD Store.empty) k := by
  simp [Sys.listOf, Sys.txStore, ht]

theorem ownLatest_eq (c : Sys) (t : Nat) (k : Key) : c.ownLatest t k = Sys.latest (c.listOf t k) := by
  unfold Sys.ownLatest Sys.listOf
  cases c.txStore t <;> rfl

theorem lists_iff {c : Sys} (hno : c.txs mainTx = none) {P : Nat → Key → List Ver → Prop} (hnil : ∀ t k, P t k []) :
    (∀ t k, P t k (c.listOf t k)) ↔
      (∀ k, P mainTx k (c.main k)) ∧ ∀ t st, c.txs t = some st → ∀ k, P t k (st k) := by
  constructor
  · refine fun h => ⟨h mainTx, fun t st hst k => ?_⟩
    have ht : t ≠ mainTx := fun e => by simp [e, hno] at hst
    simpa [listOf_tx ht, hst] using h t k
  · rintro ⟨hm, ht⟩ t k
    by_cases htm : t = mainTx
    · exact htm ▸ hm k
    · rw [listOf_tx htm]
      cases hst : c.txs t with
      | none => exact hnil t k
      | some st => exact ht t st hst k

theorem ownLatest_tx {c : Sys} {t : Nat} (ht : t ≠ mainTx) (k : Key) :
    c.ownLatest t k = match c.txs t with | some st => Sys.latest (st k) | none => none := by
  simp only [Sys.ownLatest, Sys.txStore, ht, if_false]
  cases c.txs t <;> rfl

theorem ownLatest_congr {c c' : Sys} {t : Nat} (ht : t ≠ mainTx) (h : c'.txs t = c.txs t) (k : Key) :
    c'.ownLatest t k = c.ownLatest t k := by
  rw [ownLatest_tx ht, ownLatest_tx ht, h]

theorem hasContent_congr {c c' : Sys} (h : c'.cfs = c.cfs) (cid : Nat) : c'.hasContent cid = c.hasContent cid := by
  rw [Sys.hasContent, h]; rfl

theorem hasContent_eq_none {s : Sys} {cid : Nat} : s.hasContent cid = none ↔ ∀ p ∈ s.cfs, p.1 ≠ cid := by
  rw [Sys.hasContent, Option.map_eq_none_iff, List.find?_eq_none]
  exact forall₂_congr fun _ _ => not_congr decide_eq_true_iff

theorem hasContent_append_old {c c' : Sys} {extra : List (Nat × Nat)} (h : c'.cfs = c.cfs ++ extra) {cid : Nat}
    (hx : ∀ p ∈ extra, p.1 ≠ cid) : c'.hasContent cid = c.hasContent cid := by
  have : List.find? (fun p => decide (p.1 = cid)) extra = none :=
    List.find?_eq_none.mpr fun p hp => by simpa using hx p hp
  rw [Sys.hasContent, h, List.find?_append, this, Option.or_none]; rfl

theorem mem_cfs {c : Sys} (hn : (c.cfs.map (·.1)).Nodup) (p : Nat × Nat) :
    p ∈ c.cfs ↔ c.hasContent p.1 = some p.2 := by
  unfold Sys.hasContent
  constructor
  · intro hp
    -- `p` is the first record with its id: no other has it
    obtain ⟨as, bs, e⟩ := List.append_of_mem hp
    have hf : c.cfs.find? (fun q => decide (q.1 = p.1)) = some p := by
      refine List.find?_eq_some_iff_append.mpr ⟨decide_eq_true rfl, as, bs, e, fun a ha => ?_⟩
      rw [e, List.map_append, List.map_cons] at hn
      simpa using (List.nodup_append.mp hn).2.2 a.1 (List.mem_map_of_mem ha) p.1 List.mem_cons_self
    rw [hf]; rfl
  · intro h
    obtain ⟨q, hq, hq2⟩ := Option.map_eq_some_iff.mp h
    have hq1 : q.1 = p.1 := by simpa using List.find?_some hq
    exact (Prod.ext hq1 hq2 : q = p) ▸ List.mem_of_find?_eq_some hq

theorem regGet_main (s : Sys) : s.regGet mainTx = some ⟨mainTx, .rc, 0⟩ := rfl

theorem regGet_of_ne {s : Sys} {t : Nat} (ht : t ≠ mainTx) : s.regGet t = s.reg.find? (·.id = t) := if_neg ht

theorem regGet_id {s : Sys} {t : Nat} {tx : TxRec} (h : s.regGet t = some tx) : tx.id = t := by
  by_cases ht : t = mainTx
  · rw [ht, regGet_main] at h; cases h; exact ht.symm
  · rw [regGet_of_ne ht] at h; simpa using List.find?_some h

theorem regGet_congr_find {c c' : Sys} {t : Nat} (h : c'.reg.find? (·.id = t) = c.reg.find? (·.id = t)) :
    c'.regGet t = c.regGet t := by
  by_cases ht : t = mainTx
  · rw [ht, regGet_main, regGet_main]
  · rw [regGet_of_ne ht, regGet_of_ne ht, h]

theorem regGet_congr {c c' : Sys} (h : c'.reg = c.reg) (t : Nat) : c'.regGet t = c.regGet t :=
  regGet_congr_find (by rw [h])

theorem mem_removeLinks {all : Store} {vs : List Ver} {k : Key} {u : Ver} :
    u ∈ removeLinks all vs k ↔ u ∈ all k ∧ ∀ v ∈ vs, v.cid ≠ u.cid := by
  refine List.mem_filter.trans (and_congr_right fun _ => ?_)
  rw [decide_eq_true_iff, List.any_eq_true]
  exact ⟨fun h v hv e => h ⟨v, hv, decide_eq_true e⟩, fun h ⟨v, hv, e⟩ => h v hv (of_decide_eq_true e)⟩

theorem removeLinks_cases {all : Store} (vs : List Ver) {k : Key} {v : Ver} (hv : v ∈ all k) :
    v ∈ removeLinks all vs k ∨ ∃ w ∈ vs, w.cid = v.cid :=
  Classical.or_iff_not_imp_right.mpr fun h =>
    mem_removeLinks.mpr ⟨hv, fun w hw hc => h ⟨w, hw, hc⟩⟩

end FsDb
