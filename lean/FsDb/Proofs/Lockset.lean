import FsDb.Model.Lockset
/-! Soundness of the static lock-discipline checker, one lemma per statement form: `check` is unfolded
    once, down to the branch that accepts, and then each `Exec` rule of that form is a line or two. -/
namespace FsDb.Lockset

theorem LS.run_append (L : LS) (p q : List Ev) :
    LS.run L (p ++ q) = (LS.run L p).bind (fun L' => LS.run L' q) := by
  induction p generalizing L with
  | nil => rfl
  | cons e es ih =>
    simp only [List.cons_append, LS.run]
    cases L.step e with
    | none => rfl
    | some L' => exact ih L'

theorem LS.run_append_some {L L1 L2 : LS} {p q : List Ev} (h1 : LS.run L p = some L1) (h2 : LS.run L1 q = some L2) :
    LS.run L (p ++ q) = some L2 := by
  rw [LS.run_append, h1]; exact h2

theorem LS.run_prefix {L L2 : LS} {p q : List Ev} (h : LS.run L (p ++ q) = some L2) :
    ∃ L1, LS.run L p = some L1 ∧ LS.run L1 q = some L2 :=
  Option.bind_eq_some_iff.mp (LS.run_append L p q ▸ h)

theorem mergeO_some {a b r : Option LS} {L : LS} (h : mergeO a b = some r) (hL : a = some L ∨ b = some L) :
    r = some L := by
  unfold mergeO at h
  split at h
  · cases h; exact hL.resolve_left nofun
  · cases h; exact hL.resolve_right nofun
  · split at h
    · next hxy => cases h; cases hxy; exact hL.elim id id
    · cases h

theorem Res.merge_some {a b r : Res} {o : Out} {L : LS} (h : Res.merge a b = some r)
    (hL : a.get o = some L ∨ b.get o = some L) : r.get o = some L := by
  unfold Res.merge at h
  split at h
  · cases h; cases o <;> exact mergeO_some ‹_› hL
  · cases h

theorem okEq_some {x : Option LS} {L L' : LS} (h : okEq x L = true) (hx : x = some L') : L' = L := by
  subst hx; exact eq_of_beq h

/-- every path of an accepted `s` is disciplined, and ends holding what the checker says -/
def Sound (s : Stmt) : Prop :=
  ∀ {L r p o}, check s L = some r → Exec s p o → ∃ L', LS.run L p = some L' ∧ r.get o = some L'

variable {a b f : Stmt}

theorem Sound.ev (e : Ev) : Sound (.ev e) := by
  intro L r p o h hx
  unfold check at h
  split at h
  · cases h
  · next L' hs =>
    cases h; cases hx
    exact ⟨L', by simp only [LS.run, hs], rfl⟩

theorem Sound.seq (ha : Sound a) (hb : Sound b) : Sound (.seq a b) := by
  intro L r p o h hx
  unfold check at h
  split at h
  · cases h
  · next ra hra =>
    cases hx with
    | seqN hxa hxb =>
      obtain ⟨L1, hr1, hg1⟩ := ha hra hxa
      rw [show ra.norm = some L1 from hg1] at h
      dsimp only at h
      split at h
      · cases h
      · next rb hrb =>
        obtain ⟨L2, hr2, hg2⟩ := hb hrb hxb
        exact ⟨L2, LS.run_append_some hr1 hr2, Res.merge_some h (.inr hg2)⟩
    | seqA hxa hne =>
      obtain ⟨L1, hr1, hg1⟩ := ha hra hxa
      refine ⟨L1, hr1, ?_⟩
      split at h
      · cases h; exact hg1
      · split at h
        · cases h
        · -- the join keeps `ra`'s abrupt ends
          refine Res.merge_some h (.inl ?_)
          cases o
          · exact absurd rfl hne
          all_goals exact hg1

theorem Sound.alt (ha : Sound a) (hb : Sound b) : Sound (.alt a b) := by
  intro L r p o h hx
  unfold check at h
  split at h
  · next ra rb hra hrb =>
    cases hx with
    | altL hx => exact (ha hra hx).imp fun _ k => ⟨k.1, Res.merge_some h (.inl k.2)⟩
    | altR hx => exact (hb hrb hx).imp fun _ k => ⟨k.1, Res.merge_some h (.inr k.2)⟩
  · cases h

/-- the one place that needs induction on the path: every iteration that does not return ends
    holding `L` again (`inv`) -/
theorem Sound.loop (ha : Sound a) : Sound (.loop a) := by
  intro L r p o h hx
  unfold check at h
  split at h
  · cases h
  · next ra hra =>
    obtain ⟨hok, h⟩ := Option.ite_none_right_eq_some.mp h
    simp only [Bool.and_eq_true] at hok
    cases h
    have inv : ∀ {o L'}, o ≠ .ret → ra.get o = some L' → L' = L := by
      intro o L' ho hg
      cases o
      · exact okEq_some hok.1.1 hg
      · exact absurd rfl ho
      · exact okEq_some hok.2 hg
      · exact okEq_some hok.1.2 hg
    generalize hs : Stmt.loop a = s at hx
    induction hx with
    | loop0 => exact ⟨L, rfl, rfl⟩
    | loopN hx _ _ ih | loopC hx _ _ ih =>
      cases hs
      obtain ⟨L1, hr1, hg1⟩ := ha hra hx
      cases inv (by decide) hg1
      obtain ⟨L2, hr2, hg2⟩ := ih rfl
      exact ⟨L2, LS.run_append_some hr1 hr2, hg2⟩
    | loopB hx =>
      cases hs
      obtain ⟨L1, hr1, hg1⟩ := ha hra hx
      cases inv (by decide) hg1
      exact ⟨_, hr1, rfl⟩
    | loopR hx => cases hs; exact (ha hra hx :)
    | _ => cases hs

theorem Sound.scope (ha : Sound a) (hf : Sound f) : Sound (.scope a f) := by
  intro L r p o h hx
  unfold check at h
  split at h
  · cases h
  · next ra hra =>
    obtain ⟨-, h⟩ := Option.ite_none_left_eq_some.mp h
    dsimp only at h
    split at h
    · next rn rr hn hr =>
      cases hx with
      | scopeN hxa hxf =>
        obtain ⟨L1, hr1, hg1⟩ := ha hra hxa
        rw [show ra.norm = some L1 from hg1] at hn
        obtain ⟨L2, hr2, hg2⟩ := hf hn hxf
        exact ⟨L2, LS.run_append_some hr1 hr2, Res.merge_some h (.inl hg2)⟩
      | scopeR hxa hxf =>
        obtain ⟨L1, hr1, hg1⟩ := ha hra hxa
        rw [show ra.ret = some L1 from hg1] at hr
        dsimp only at hr
        split at hr
        · cases hr
        · next rf hrf =>
          -- the deferred statement completes; that is the scope's return
          obtain ⟨-, hr⟩ := Option.ite_none_left_eq_some.mp hr
          cases hr
          obtain ⟨L2, hr2, hg2⟩ := hf hrf hxf
          exact ⟨L2, LS.run_append_some hr1 hr2, Res.merge_some (o := .ret) h (.inr hg2)⟩
    · cases h

theorem Sound.frame (ha : Sound a) : Sound (.frame a) := by
  intro L r p o h hx
  unfold check at h
  split at h
  · cases h
  · next ra hra =>
    obtain ⟨-, h⟩ := Option.ite_none_left_eq_some.mp h
    split at h
    · cases h
    · next n hn =>
      cases h
      cases hx with
      | frameN hx => exact (ha hra hx).imp fun _ k => ⟨k.1, mergeO_some hn (.inl k.2)⟩
      | frameR hx => exact (ha hra hx).imp fun _ k => ⟨k.1, mergeO_some hn (.inr k.2)⟩

theorem Sound.block (ha : Sound a) : Sound (.block a) := by
  intro L r p o h hx
  unfold check at h
  split at h
  · cases h
  · next ra hra =>
    split at h
    · cases h
    · next n hn =>
      cases h
      cases hx with
      | blockN hx => exact (ha hra hx).imp fun _ k => ⟨k.1, mergeO_some hn (.inl k.2)⟩
      | blockB hx => exact (ha hra hx).imp fun _ k => ⟨k.1, mergeO_some hn (.inr k.2)⟩
      | blockR hx => exact (ha hra hx :)
      | blockC hx => exact (ha hra hx :)

theorem check_sound (s : Stmt) : Sound s := by
  induction s with
  | skip | ret | brk | cont => intro L r p o h hx; cases h; cases hx; exact ⟨L, rfl, rfl⟩
  | bad => intro L r p o h; cases h
  | ev e => exact Sound.ev e
  | seq _ _ iha ihb => exact iha.seq ihb
  | alt _ _ iha ihb => exact iha.alt ihb
  | loop _ iha => exact iha.loop
  | scope _ _ iha ihf => exact iha.scope ihf
  | frame _ iha => exact iha.frame
  | block _ iha => exact iha.block

theorem rootOk_sound {body : Stmt} (hok : rootOk body = true) {p : List Ev} (hp : RootPath body p) :
    LS.run [] p = some [] := by
  unfold rootOk at hok
  split at hok
  · cases hok
  · next r hr =>
    simp only [Bool.and_eq_true] at hok
    rcases hp with hp | hp
    · obtain ⟨L', h1, h2⟩ := check_sound body hr hp
      cases okEq_some hok.1.1.1 h2; exact h1
    · obtain ⟨L', h1, h2⟩ := check_sound body hr hp
      cases okEq_some hok.1.1.2 h2; exact h1

theorem calls_disciplined (paths : List (List Ev)) (h : ∀ p ∈ paths, LS.run [] p = some []) :
    LS.run [] paths.flatten = some [] := by
  induction paths with
  | nil => rfl
  | cons p ps ih =>
    exact LS.run_append_some (h p List.mem_cons_self) (ih fun q hq => h q (List.mem_cons_of_mem _ hq))

end FsDb.Lockset
