import FsDb.Proofs.ConcInv
import FsDb.Proofs.SortKeys
/-! How the invariant of the small-step concurrency model is re-established after a step of thread
    `i`, by kind of step (local: `goto_step`; read-only linearization point: `witness_step`;
    state-changing one: `linearize_step`), and what the critical sections of `Get` and `GetKeys` establish. -/
namespace FsDb.Conc
open Sys Spec

theorem inv_sys {σ : St} (h : CInv σ) : Inv σ.sys := h.rel.inv.of_withB

/-- the program counters at which a thread holds neither the horizon mutex nor an entry of `closing` -/
def quiet : Pc → Bool
  | .beginUnlock _ | .commitRun _ | .rollbackRun _ => false
  | _ => true

theorem quiet_unlock {pc : Pc} (hq : quiet pc = true) : ∀ o, pc ≠ .beginUnlock o := fun _ e => by subst e; cases hq

theorem quiet_run {pc : Pc} (hq : quiet pc = true) : ∀ t, pc ≠ .commitRun t ∧ pc ≠ .rollbackRun t :=
  fun _ => ⟨(by rintro rfl; cases hq), (by rintro rfl; cases hq)⟩

theorem hz_not_self {σ : St} {i : Nat} (h : CInv σ) {pc : Pc} (hpc : (σ.thr i).pc = pc)
    (hn : ∀ o, pc ≠ .beginUnlock o) : σ.hzLock ≠ some i := by
  intro e
  obtain ⟨o, ho⟩ := h.lock i e
  exact hn o (hpc.symm.trans ho)

theorem own_closing {σ : St} {i t : Nat} (h : CInv σ) (ht : t ∈ σ.closing) (ho : σ.owner t = some i) :
    (σ.thr i).pc = .commitRun t ∨ (σ.thr i).pc = .rollbackRun t := by
  obtain ⟨j, hj, hp⟩ := h.closing t ht
  cases ho.symm.trans hj
  exact hp

theorem own_not_closing {σ : St} {i : Nat} {pc : Pc} (h : CInv σ) (hpc : (σ.thr i).pc = pc)
    (hn : ∀ t, pc ≠ .commitRun t ∧ pc ≠ .rollbackRun t) : ∀ t ∈ σ.closing, σ.owner t ≠ some i :=
  fun t ht ho => (hpc ▸ own_closing h ht ho).elim (hn t).1 (hn t).2

theorem not_closing {σ : St} {i t : Nat} {pc : Pc} (h : CInv σ) (hpc : (σ.thr i).pc = pc) (hq : quiet pc = true)
    (ha : allowed σ i t = true) : t ∉ σ.closing := by
  intro hin
  rcases allowed_iff.mp ha with rfl | ha
  · obtain ⟨j, hj, _⟩ := h.closing _ hin
    rw [h.ownerMain] at hj; cases hj
  · exact own_not_closing h hpc (quiet_run hq) t hin ha

/-- after a step of thread `i` to `pc'` the horizon mutex is held (`hz'`) by `i`, now between the two steps of `Begin`,
    or by the thread that held it: what `CInv.lock` needs of the step -/
def LockStep (σ : St) (i : Nat) (hz' : Option Nat) (pc' : Pc) : Prop :=
  ∀ j, hz' = some j → (j = i ∧ ∃ o, pc' = .beginUnlock o) ∨ (j ≠ i ∧ σ.hzLock = some j)

/-- after a step of thread `i` to `pc'` a transaction in `closing` (`cl'`) is `i`'s, now between the two steps of its
    `Commit` / `Rollback`, or was there and is another thread's: what `CInv.closing` needs of the step -/
def ClosingStep (σ : St) (i : Nat) (cl' : List Nat) (pc' : Pc) : Prop :=
  ∀ t ∈ cl', (σ.owner t = some i ∧ (pc' = .commitRun t ∨ pc' = .rollbackRun t)) ∨ (σ.owner t ≠ some i ∧ t ∈ σ.closing)

/-- This and `closing_same`: a step of thread `i` that touches neither the mutex nor `closing`; only the right
    disjunct is ever the case. -/
theorem lock_same {σ : St} {i : Nat} {pc pc' : Pc} (h : CInv σ) (hpc : (σ.thr i).pc = pc)
    (hn : ∀ o, pc ≠ .beginUnlock o) : LockStep σ i σ.hzLock pc' :=
  fun _ hj => .inr ⟨fun e => hz_not_self h hpc hn (e ▸ hj), hj⟩

theorem closing_same {σ : St} {i : Nat} {pc pc' : Pc} (h : CInv σ) (hpc : (σ.thr i).pc = pc)
    (hn : ∀ t, pc ≠ .commitRun t ∧ pc ≠ .rollbackRun t) : ClosingStep σ i σ.closing pc' :=
  fun t ht => .inr ⟨own_not_closing h hpc hn t ht, ht⟩

theorem no_log (l : List (Nat × EOp × Out)) : ∃ ext, l = l ++ ext ∧ ∀ e ∈ ext, e.2.1.plain = true :=
  ⟨[], (List.append_nil l).symm, fun _ he => nomatch he⟩

/-- What a step of thread `i` is shown to leave: the invariant, with the guarantee it was re-established under and that the
    other threads stood still (`jobInv_of_shape` reads these two). -/
structure StepOk (σ : St) (i : Nat) (σ' : St) : Prop where
  guar : Guar σ σ' i
  others : ∀ j, j ≠ i → σ'.thr j = σ.thr j
  inv : CInv σ'

/-- The one place where the invariant is assembled after a step of thread `i`: the assertions of the
    others are stable under `g`, that of `i` is `ti`.  The conclusion is `StepOk`, not only `CInv σ'`:
    the guarantee is handed back with it (`jobInv_of_shape` needs it). -/
theorem CInv.of_step {σ σ' : St} {i : Nat} {th' : Thread} {ext : List (Nat × EOp × Out)} (h : CInv σ)
    (g : Guar σ σ' i) (hlin : σ'.lin = σ.lin ++ ext)
    (hthr : σ'.thr = fun j => if j = i then th' else σ.thr j)
    (rel : Rx σ'.closing (withBusy σ') (Spec.erun (specOf σ) (linOps ext)).1)
    (outs : (Spec.erun (specOf σ) (linOps ext)).2 = linOuts ext)
    (ti : TInv σ' i th')
    (hlock : LockStep σ i σ'.hzLock th'.pc) (hcl : ClosingStep σ i σ'.closing th'.pc)
    (om : σ'.owner mainTx = none) : StepOk σ i σ' := by
  have hself : σ'.thr i = th' := by rw [hthr]; exact if_pos rfl
  have hoth : ∀ j, j ≠ i → σ'.thr j = σ.thr j := fun j hij => by rw [hthr]; exact if_neg hij
  have hrun : Spec.erun {} (linOps σ'.lin) = ((Spec.erun (specOf σ) (linOps ext)).1, linOuts σ'.lin) := by
    rw [hlin, linOps_append, Spec.erun_append, h.outs, linOuts_append]
    exact congrArg (Prod.mk _) (congrArg _ outs)
  refine ⟨g, hoth, ?_, congrArg Prod.snd hrun, fun j => ?_, fun j hj => ?_, fun t ht => ?_, om, fun e he => ?_⟩
  · rw [specOf, hrun]; exact rel
  · by_cases hij : j = i
    · rw [hij, hself]; exact ti
    · rw [hoth j hij]; exact (h.thr j).stable g hij
  · rcases hlock j hj with ⟨rfl, o, ho⟩ | ⟨hij, hj'⟩
    · exact ⟨o, by rw [hself]; exact ho⟩
    · rw [hoth j hij]; exact h.lock j hj'
  · rcases hcl t ht with ⟨ho, hp⟩ | ⟨ho, hin⟩
    · exact ⟨i, g.owner t i ho, by rw [hself]; exact hp⟩
    · obtain ⟨j, hj, hp⟩ := h.closing t hin
      have hij : j ≠ i := fun e => ho (e ▸ hj)
      exact ⟨j, g.owner t j hj, by rw [hoth j hij]; exact hp⟩
  · obtain ⟨_, hext, hpl⟩ := g.lin
    rw [hext] at he
    exact (List.mem_append.mp he).elim (h.plain e) (hpl e)

theorem CInv.of_quiet {σ σ' : St} {i : Nat} {pc : Pc} {th' : Thread} {ext : List (Nat × EOp × Out)} (h : CInv σ)
    (hpc : (σ.thr i).pc = pc) (hq : quiet pc = true) (hthr : σ'.thr = fun j => if j = i then th' else σ.thr j)
    (fr : Frame σ.sys σ'.sys mainTx) (hlin : σ'.lin = σ.lin ++ ext) (hpl : ∀ e ∈ ext, e.2.1.plain = true)
    (hbusy : ∀ j job, j ≠ i → (j, job) ∈ σ.busy → (j, job) ∈ σ'.busy)
    (rel : Rx σ.closing (withBusy σ') (Spec.erun (specOf σ) (linOps ext)).1)
    (ti : TInv σ' i th')
    (hz : σ'.hzLock = σ.hzLock := by rfl) (hcl : σ'.closing = σ.closing := by rfl) (hown : σ'.owner = σ.owner := by rfl)
    (outs : (Spec.erun (specOf σ) (linOps ext)).2 = linOuts ext := by rfl) : StepOk σ i σ' := by
  refine h.of_step ⟨⟨mainTx, allowed_main σ i, fr⟩, fun t j ho => by rw [hown]; exact ho, ⟨ext, hlin, hpl⟩, hbusy, fun j _ hj => by rw [hz]; exact hj,
    fun t ht => .inl (by rw [hcl]; exact ht)⟩ hlin hthr (by rw [hcl]; exact rel) outs ti ?_ ?_ (by rw [hown]; exact h.ownerMain)
  · rw [hz]; exact lock_same h hpc (quiet_unlock hq)
  · rw [hcl]; exact closing_same h hpc (quiet_run hq)

theorem silent_step {σ : St} {i : Nat} {pc : Pc} (h : CInv σ) (hpc : (σ.thr i).pc = pc) (hq : quiet pc = true)
    {pc' : Pc} {sys' : Sys} {busy' : List (Nat × List Ver)} (fr : Frame σ.sys sys' mainTx)
    (hb : ∀ j job, j ≠ i → (j, job) ∈ σ.busy → (j, job) ∈ busy')
    (hR : Rx σ.closing (withB (busy'.map (·.2)) sys') (specOf σ))
    (hp : PcInv { σ.goto i pc' with sys := sys', busy := busy' } i (σ.thr i) pc') :
    StepOk σ i { σ.goto i pc' with sys := sys', busy := busy' } :=
  h.of_quiet hpc hq rfl fr (List.append_nil _).symm (fun _ he => nomatch he) hb hR ⟨(h.thr i).invLe, (h.thr i).wit, hp⟩

theorem goto_step {σ : St} {i : Nat} {pc pc' : Pc} (h : CInv σ) (hpc : (σ.thr i).pc = pc) (hq : quiet pc = true)
    (hp : PcInv σ i (σ.thr i) pc') : StepOk σ i (σ.goto i pc') :=
  silent_step h hpc hq (Frame.refl _ _) (fun _ _ _ hm => hm) h.rel hp

theorem ret_of_wit {σ : St} {i : Nat} {th : Thread} {o : Out} (h : th.wit = some o) : PcInv σ i th (.ret o) :=
  ⟨fun _ => h, fun ks e => ⟨ks, by rw [h, e], fun _ hk => hk⟩⟩

theorem witness_step {σ : St} {i : Nat} {pc pc' : Pc} {w : Out} (h : CInv σ) (hpc : (σ.thr i).pc = pc)
    (hq : quiet pc = true)
    (hsem : WitSem σ i { σ.thr i with wit := some w, witAt := σ.lin.length } w)
    (hp : PcInv σ i { σ.thr i with wit := some w } pc') : StepOk σ i (σ.witness i pc' w) := by
  refine h.of_quiet hpc hq rfl (Frame.refl _ _) (List.append_nil _).symm
    (fun _ he => nomatch he) (fun _ _ _ hm => hm) h.rel ⟨(h.thr i).invLe, fun w' hw' => ?_, hp⟩
  cases hw'
  exact ⟨(h.thr i).invLe, Nat.le_refl _, hsem⟩

theorem get_step {σ : St} {i : Nat} {pc pc' : Pc} (h : CInv σ) (hpc : (σ.thr i).pc = pc) (hq : quiet pc = true)
    {t : Nat} {k : Key} (hal : allowed σ i t = true) (hop : (σ.thr i).op = some (.get t k))
    (hp : PcInv σ i { σ.thr i with wit := some (σ.sys.get t k) } pc') :
    StepOk σ i (σ.witness i pc' (σ.sys.get t k)) := by
  -- `by exact hop`, here and below: `hop` is elaborated after `th := { σ.thr i with … }` is known, so that
  -- `th.op` reduces to `(σ.thr i).op`
  refine witness_step h hpc hq ((witSem_read (o := .get t k) (by exact hop) rfl).mpr ?_) hp
  rw [specAt_length]
  exact h.rel.get_eq t k (not_closing h hpc hq hal)

theorem keys_step {σ : St} {i : Nat} {pc pc' : Pc} (h : CInv σ) (hpc : (σ.thr i).pc = pc) (hq : quiet pc = true)
    {t : Nat} (hal : allowed σ i t = true) (hop : (σ.thr i).op = some (.keys t))
    (hp : PcInv σ i { σ.thr i with wit := some (σ.sys.getKeys t) } pc') :
    StepOk σ i (σ.witness i pc' (σ.sys.getKeys t)) := by
  refine witness_step h hpc hq ((witSem_read (o := .keys t) (by exact hop) rfl).mpr ?_) hp
  rw [specAt_length]
  exact h.rel.getKeys_eq t (not_closing h hpc hq hal)

theorem linearize_step {σ : St} {i : Nat} {sys' : Sys} {op : Op} {w : Out} {pc' : Pc} {hz' : Option Nat}
    {cl' : List Nat} (h : CInv σ) (hop : (σ.thr i).op = some op) (hnr : notRead op = true) (hpl : plainOp op = true)
    (hR : Rx cl' (withB (σ.busy.map (·.2)) sys') (Spec.step (specOf σ) op).1)
    (hw : w = (Spec.step (specOf σ) op).2)
    (fr : ∃ t, allowed σ i t = true ∧ Frame σ.sys sys' t)
    (hhz : ∀ j, j ≠ i → σ.hzLock = some j → hz' = some j)
    (hlock : LockStep σ i hz' pc')
    (hgc : ∀ t ∈ σ.closing, t ∈ cl' ∨ ∀ r ∈ sys'.reg, r.id ≠ t)
    (hcl : ClosingStep σ i cl' pc')
    (hp : PcInv { σ.linearize i sys' op w pc' with hzLock := hz', closing := cl' } i { σ.thr i with wit := some w } pc') :
    StepOk σ i { σ.linearize i sys' op w pc' with hzLock := hz', closing := cl' } := by
  have ht := h.thr i
  have hlen : σ.lin.length + 1 = (σ.lin ++ [(i, EOp.op op, w)]).length := (List.length_append (bs := [_])).symm
  refine h.of_step ⟨fr, fun _ _ h => h, ⟨_, rfl, List.forall_mem_singleton.mpr hpl⟩, fun _ _ _ h => h, hhz, hgc⟩ rfl rfl
    hR (congrArg (fun o => [o]) hw.symm) ⟨hlen ▸ Nat.le_succ_of_le ht.invLe, fun w' hw' => ?_, hp⟩ hlock hcl h.ownerMain
  cases hw'
  exact ⟨Nat.le_succ_of_le ht.invLe, Nat.le_of_eq hlen,
    (witSem_write (by exact hop) hnr).mpr ⟨Nat.lt_succ_of_le ht.invLe, List.getElem?_concat_length⟩⟩

theorem linearize_same {σ : St} {i : Nat} {pc pc' : Pc} {sys' : Sys} {op : Op} {w : Out} (h : CInv σ)
    (hpc : (σ.thr i).pc = pc) (hq : quiet pc = true) (hop : (σ.thr i).op = some op) (hnr : notRead op = true) (hpl : plainOp op = true)
    (hR : Rx σ.closing (withB (σ.busy.map (·.2)) sys') (Spec.step (specOf σ) op).1)
    (hw : w = (Spec.step (specOf σ) op).2)
    (fr : ∃ t, allowed σ i t = true ∧ Frame σ.sys sys' t)
    (hp : PcInv (σ.linearize i sys' op w pc') i { σ.thr i with wit := some w } pc') :
    StepOk σ i (σ.linearize i sys' op w pc') :=
  linearize_step (hz' := σ.hzLock) (cl' := σ.closing) h hop hnr hpl hR hw fr (fun _ _ hj => hj)
    (lock_same h hpc (quiet_unlock hq)) (fun _ ht => .inl ht) (closing_same h hpc (quiet_run hq)) hp

/-- the operations that take effect by one `Sys.step` -/
def isMut : Op → Bool
  | .begin _ _ | .set _ _ _ | .del _ _ | .commit _ | .rollback _ => true
  | _ => false

theorem withB_step {b : List (List Ver)} {s : Sys} (ib : Inv (withB b s)) (op : Op) (hm : isMut op = true) :
    (withB b s).step op = (withB b (s.step op).1, (s.step op).2) := by
  cases op <;> first | cases hm | skip
  · exact withB_begin b s _ _
  · exact withB_set b s _ _ _
  · exact withB_del b s _ _
  · exact withB_commit b s ib _
  · exact withB_rollback b s _

theorem isMut_notRead {op : Op} (hm : isMut op = true) : notRead op = true := by
  cases op <;> first | rfl | cases hm

theorem isMut_plain {op : Op} (hm : isMut op = true) : plainOp op = true := by
  cases op <;> first | rfl | cases hm

theorem isMut_reads {op : Op} (hm : isMut op = true) : ∀ t, op.reads = some t → t ∉ ([] : List Nat) :=
  fun _ _ => List.not_mem_nil

theorem op_R {σ : St} (h : CInv σ) (op : Op) (hm : isMut op = true) :
    Agree (Rx σ.closing) (withB (σ.busy.map (·.2)) (σ.sys.step op).1, (σ.sys.step op).2) (Spec.step (specOf σ) op) := by
  have := Refine.stepX h.rel op (by cases op <;> first | rfl | cases hm)
    (by cases op <;> first | (intro _ e; cases e; done) | cases hm)
  rwa [withBusy, withB_step h.rel.inv _ hm] at this

/-- `Trans` logs the atomic answer as the term `(σ.sys.step op).2`, while the successor program counter
    carries the answer of the branch taken (`.ret .ok`, `.ret (.err .txNotFound)` …): hence `e`. -/
theorem op_step {σ : St} {i : Nat} {pc : Pc} (h : CInv σ) (hpc : (σ.thr i).pc = pc) (hq : quiet pc = true)
    {op : Op} (hm : isMut op = true) (hop : (σ.thr i).op = some op) {sys' : Sys} {w' : Out}
    (e : σ.sys.step op = (sys', w')) {t : Nat} (hal : allowed σ i t = true) (fr : Frame σ.sys sys' t) :
    StepOk σ i (σ.linearize i sys' op (σ.sys.step op).2 (.ret w')) := by
  obtain ⟨hw, hR⟩ := op_R h op hm
  rw [e] at hR
  exact linearize_same h hpc hq hop (isMut_notRead hm) (isMut_plain hm) hR hw
    ⟨t, hal, fr⟩ (ret_of_wit (by rw [e]))

/-- `core.Get` reads, in one critical section, what its two critical sections read -/
theorem coreGet_eq (s : Sys) (tx : TxRec) (k : Key) :
    s.coreGet tx k = Sys.newer (ownRead s tx k) (baseRead s tx k) := by
  unfold Sys.coreGet ownRead baseRead
  cases tx.level <;> rfl

theorem ownRead_eq {s : Sys} {tx : TxRec} (hl : tx.level ≠ .ru) (k : Key) : ownRead s tx k = s.ownLatest tx.id k := by
  unfold ownRead
  cases hlv : tx.level <;> first | exact absurd hlv hl | rfl

theorem ownRead_ru {s : Sys} {tx : TxRec} (hl : tx.level = .ru) (k : Key) : ownRead s tx k = none := by
  unfold ownRead; rw [hl]

theorem ownOk_now (s : Sys) (tx : TxRec) (k : Key) : OwnOk s tx k (ownRead s tx k) := by
  refine ⟨fun hl => ownRead_ru hl k, fun hl _ => ownRead_eq hl k, fun hl hm f hf => ?_⟩
  rw [ownRead_eq hl, hm] at hf
  exact ⟨f, hf, Nat.le_refl _⟩

theorem coreGet_of_own {s : Sys} {tx : TxRec} {k : Key} {own : Option Ver}
    (hreg : s.regGet tx.id = some tx) (ho : OwnOk s tx k own) :
    Sys.newer own (baseRead s tx k) = s.coreGet tx k := by
  obtain ⟨h1, h2, h3⟩ := ho
  rw [coreGet_eq]
  by_cases hl : tx.level = .ru
  · rw [h1 hl, ownRead_ru hl]
  by_cases hm : tx.id = mainTx
  · -- the main transaction reads at ReadCommitted and its own list is the main list, read twice:
    -- the second read is the newer one
    rw [hm, regGet_main] at hreg
    rw [← Option.some.inj hreg] at h3 ⊢
    exact (newer_of_le (h3 nofun rfl)).trans (newer_self _).symm
  · rw [h2 hl hm, ownRead_eq hl]

theorem get_none {s : Sys} {tx : TxRec} {k : Key} (hreg : s.regGet tx.id = some tx) (hn : s.coreGet tx k = none) :
    s.get tx.id k = .err .notFound := by
  rw [get_reg hreg, hn]

theorem get_some {s : Sys} {tx : TxRec} {k : Key} {v : Ver} (hreg : s.regGet tx.id = some tx)
    (hv : s.coreGet tx k = some v) : s.get tx.id k = outOfVal (s.hasContent v.cid) := by
  rw [get_reg hreg, hv]; dsimp only
  cases s.hasContent v.cid <;> rfl

theorem lookupKV_filterMap (f : Key → Option Ver) (l : List Key) (k : Key) :
    lookupKV (l.filterMap fun k' => (f k').map fun v => (k', v)) k = if k ∈ l then f k else none := by
  induction l with
  | nil => rfl
  | cons a l ih =>
    rw [List.filterMap_cons]
    by_cases hka : a = k
    · subst hka
      cases hr : f a <;>
        simp only [lookupKV, hr, Option.map_none, Option.map_some, List.find?_cons, decide_true, List.mem_cons_self,
          ite_true, ite_self] at ih ⊢
      exact ih
    · cases f a <;>
        simp only [lookupKV, Option.map_none, Option.map_some, List.find?_cons, hka, decide_false, List.mem_cons,
          Ne.symm hka, false_or] <;> exact ih

theorem ownRead_none_of_not_dom {s : Sys} (i : Inv s) (tx : TxRec) {k : Key} (hk : k ∉ s.dom) : ownRead s tx k = none := by
  by_cases hl : tx.level = .ru
  · exact ownRead_ru hl k
  · rw [ownRead_eq hl]
    cases hv : s.ownLatest tx.id k with
    | none => rfl
    | some v => exact absurd (i.mem_dom (ownLatest_mem i hv)) hk

theorem kOwnOk_now {s : Sys} (i : Inv s) (tx : TxRec) :
    KOwnOk s tx (s.dom.filterMap (fun k => (ownRead s tx k).map (fun v => (k, v)))) := by
  intro k
  rw [lookupKV_filterMap (ownRead s tx)]
  split
  · exact ownOk_now s tx k
  · rw [← ownRead_none_of_not_dom i tx ‹_›]; exact ownOk_now s tx k

theorem keysOk_now {s : Sys} (i : Inv s) {tx : TxRec} {own : List (Key × Ver)}
    (hreg : s.regGet tx.id = some tx) (ho : KOwnOk s tx own) :
    KeysOk s (some (s.getKeys tx.id)) (s.dom.filterMap (fun k => Sys.newer (lookupKV own k) (baseRead s tx k))) [] := by
  refine ⟨sortKeys (s.dom.filter (s.listed tx)), congrArg some (getKeys_of_reg hreg), nofun, fun v hv => ?_⟩
  obtain ⟨k, hk, hkv⟩ := List.mem_filterMap.mp hv
  rw [coreGet_of_own hreg (ho k)] at hkv
  have hv := coreGet_mem i tx k hkv
  refine ⟨i.cid_lt hv, fun hs => ?_⟩
  rw [mem_sortKeys, List.mem_filter, i.key_eq hv]
  exact ⟨hk, by rw [Sys.listed, hkv]; exact hs⟩

end FsDb.Conc
