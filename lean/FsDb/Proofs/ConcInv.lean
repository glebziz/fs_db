import FsDb.Proofs.ConcBasic
/-! The invariant `CInv` of the small-step concurrency model, by rely/guarantee: `Guar σ σ' i` is what
    a step of thread `i` guarantees to the other goroutines, the `….stable` lemmas that their
    assertions survive it. -/
namespace FsDb.Conc
open Sys Spec

def outOfVal : Option Nat → Out
  | some c => .val c
  | none => .err .notFound

/-- the content id whose record was found missing: old, and still missing -/
def PrevOk (s : Sys) : Option Nat → Prop
  | none => True
  | some p => p < s.nextCid ∧ s.hasContent p = none

/-- `own` is what the first critical section of `core.Get` read, as the second one may rely on it.
    For a transaction other than main it is still what the atomic model reads now (only its owner
    writes that store); for the main transaction it may be outdated, but it is not newer than the
    newest version of the main list, which the second critical section reads (`Frame.mainMono` keeps
    it so). -/
def OwnOk (s : Sys) (tx : TxRec) (k : Key) (own : Option Ver) : Prop :=
  (tx.level = .ru → own = none) ∧
  (tx.level ≠ .ru → tx.id ≠ mainTx → own = s.ownLatest tx.id k) ∧
  (tx.level ≠ .ru → tx.id = mainTx → ∀ f, own = some f → ∃ m, latest (s.main k) = some m ∧ f.seq ≤ m.seq)

/-- `tx` is what a registry lookup by thread `i` returned and would still return (`regGet_stable`: the others cannot
    name its transaction, and the main one has no entry) -/
def RegOk (σ : St) (i : Nat) (tx : TxRec) : Prop :=
  allowed σ i tx.id = true ∧ σ.sys.regGet tx.id = some tx

def isKeys : Option Op → Bool
  | some (.keys _) => true
  | _ => false

def notRead : Op → Bool
  | .get _ _ => false
  | .keys _ => false
  | _ => true

/-- What the ghost witness `w` of the current invocation means.  For a read: the specification's answer in the state
    after the first `witAt` log entries.  For every other operation: the answer logged at position `witAt - 1` by this
    thread for this operation, and after the invocation (`invAt < witAt`), so the entry belongs to this call and the
    linearization point lies inside it. -/
def WitSem (σ : St) (i : Nat) (th : Thread) (w : Out) : Prop :=
  match th.op with
  | some (.get t k) => w = Spec.get (specAt σ th.witAt) t k
  | some (.keys t) => w = Spec.getKeys (specAt σ th.witAt) t
  | some o => th.invAt < th.witAt ∧ σ.lin[th.witAt - 1]? = some (i, .op o, w)
  | none => True

/-- GetKeys after its lookups: what it has accepted and what it can still accept was listed by the
    atomic GetKeys at the linearization point (`W`); it can lose keys (a content record reclaimed
    meanwhile), never invent one -/
def KeysOk (s : Sys) (wit : Option Out) (todo : List Ver) (acc : List Key) : Prop :=
  ∃ W, wit = some (.keys W) ∧ (∀ k ∈ acc, k ∈ W) ∧
    ∀ v ∈ todo, v.cid < s.nextCid ∧ ((s.hasContent v.cid).isSome = true → v.key ∈ W)

/-- `OwnOk` for every key, of the own versions GetKeys read in its first critical section -/
def KOwnOk (s : Sys) (tx : TxRec) (own : List (Key × Ver)) : Prop := ∀ k, OwnOk s tx k (lookupKV own k)

/-- what thread `i` has still to delete is part of a job it has in execution: `withBusy` keeps it in the queue, so
    `Inv.pendDead` says these versions are dead -/
def Job (σ : St) (i : Nat) (todo : List Ver) : Prop := ∃ job, (i, job) ∈ σ.busy ∧ ∀ v ∈ todo, v ∈ job

def PcInv (σ : St) (i : Nat) (th : Thread) : Pc → Prop
  | .idle => True
  -- every operation but GetKeys returns its witness; GetKeys only a sub-list of it (from `KeysOk`; the open
  -- finding `C06_getkeys_not_atomic`)
  | .ret o => (isKeys th.op = false → th.wit = some o) ∧
      (∀ ks, o = .keys ks → ∃ W, th.wit = some (.keys W) ∧ ∀ k ∈ ks, k ∈ W)
  | .setGuard t k c => allowed σ i t = true ∧ th.op = some (.set t k c)
  | .setContent t k c => allowed σ i t = true ∧ th.op = some (.set t k c) ∧ (σ.sys.regGet t).isSome = true ∧ k ≠ ""
  | .setStore t k c => allowed σ i t = true ∧ th.op = some (.set t k c) ∧ (σ.sys.regGet t).isSome = true ∧ k ≠ ""
  | .delGuard t k => allowed σ i t = true ∧ th.op = some (.del t k)
  | .delStore t k => allowed σ i t = true ∧ th.op = some (.del t k) ∧ (σ.sys.regGet t).isSome = true
  | .getReg t k => allowed σ i t = true ∧ th.op = some (.get t k)
  | .getOwn tx k prev => RegOk σ i tx ∧ th.op = some (.get tx.id k) ∧ PrevOk σ.sys prev
  | .getBase tx k own prev => RegOk σ i tx ∧ th.op = some (.get tx.id k) ∧ PrevOk σ.sys prev ∧ OwnOk σ.sys tx k own
  -- the content record of the version found is the one stored with it (`Inv.stor`) or reclaimed meanwhile, never
  -- another content: a hit returns the witness, a miss looks the key up again
  | .getContent tx k v => RegOk σ i tx ∧ th.op = some (.get tx.id k) ∧ th.wit = some (outOfVal v.val) ∧
      v.cid < σ.sys.nextCid ∧ (σ.sys.hasContent v.cid = none ∨ σ.sys.hasContent v.cid = v.val)
  | .keysReg t => allowed σ i t = true ∧ th.op = some (.keys t)
  | .keysOwn tx => RegOk σ i tx ∧ th.op = some (.keys tx.id)
  | .keysBase tx own => RegOk σ i tx ∧ th.op = some (.keys tx.id) ∧ KOwnOk σ.sys tx own
  | .keysContent todo acc => isKeys th.op = true ∧ KeysOk σ.sys th.wit todo acc
  | .beginLock t lvl => σ.owner t = some i ∧ t ≠ mainTx ∧ th.op = some (.begin t lvl)
  | .beginUnlock o => σ.hzLock = some i ∧ th.wit = some o
  | .commitDereg t => allowed σ i t = true ∧ th.op = some (.commit t)
  | .commitRun t => allowed σ i t = true ∧ th.op = some (.commit t)
  | .rollbackDereg t => allowed σ i t = true ∧ th.op = some (.rollback t)
  | .rollbackRun t => allowed σ i t = true ∧ th.op = some (.rollback t)
  | .gcHorizon => th.op = some .gc
  | .gcCollect hz => SafeHz σ.closing σ.sys hz ∧ hz ≤ σ.sys.counter ∧ th.wit = some .ok
  | .gcDelete todo => Job σ i todo ∧ th.wit = some .ok
  | .workTake => th.op = some .drain
  | .workDelete todo => Job σ i todo ∧ th.op = some .drain

/-- The assertion of thread `i`: stable under the steps of the others (`TInv.stable`), re-established by `i` after its
    own (`ti` in `CInv.of_step`). -/
structure TInv (σ : St) (i : Nat) (th : Thread) : Prop where
  invLe : th.invAt ≤ σ.lin.length
  wit : ∀ w, th.wit = some w → th.invAt ≤ th.witAt ∧ th.witAt ≤ σ.lin.length ∧ WitSem σ i th w
  pc : PcInv σ i th th.pc

structure CInv (σ : St) : Prop where
  rel : Rx σ.closing (withBusy σ) (specOf σ)
  /-- the answers in the log, those of the atomic model, are the specification's -/
  outs : (Spec.erun {} (linOps σ.lin)).2 = linOuts σ.lin
  thr : ∀ i, TInv σ i (σ.thr i)
  /-- the horizon mutex is held across steps only by `Begin`, between its two; the holder can always move (`progress`) -/
  lock : ∀ i, σ.hzLock = some i → ∃ o, (σ.thr i).pc = .beginUnlock o
  /-- a transaction in `closing` is between the two steps of its owner's `Commit` or `Rollback` -/
  closing : ∀ t ∈ σ.closing, ∃ j, σ.owner t = some j ∧ ((σ.thr j).pc = .commitRun t ∨ (σ.thr j).pc = .rollbackRun t)
  ownerMain : σ.owner mainTx = none
  /-- no reopen and no storage walk is logged: the hypothesis of `erun_erases` (`log_pure`) -/
  plain : ∀ e ∈ σ.lin, e.2.1.plain = true

structure Guar (σ σ' : St) (i : Nat) : Prop where
  frame : ∃ t, allowed σ i t = true ∧ Frame σ.sys σ'.sys t
  owner : ∀ t j, σ.owner t = some j → σ'.owner t = some j
  lin : ∃ ext, σ'.lin = σ.lin ++ ext ∧ ∀ e ∈ ext, e.2.1.plain = true
  busy : ∀ j job, j ≠ i → (j, job) ∈ σ.busy → (j, job) ∈ σ'.busy
  hz : ∀ j, j ≠ i → σ.hzLock = some j → σ'.hzLock = some j
  /-- a transaction leaves `closing` only together with its registry record: what keeps a horizon
      computed earlier safe (`SafeHz.stable`) -/
  closing : ∀ t ∈ σ.closing, t ∈ σ'.closing ∨ ∀ r ∈ σ'.sys.reg, r.id ≠ t

theorem witSem_read {σ : St} {i : Nat} {th : Thread} {w : Out} {o : Op} (hop : th.op = some o)
    (hr : notRead o = false) : WitSem σ i th w ↔ w = (Spec.step (specAt σ th.witAt) o).2 := by
  unfold WitSem; rw [hop]
  cases o <;> first | exact Iff.rfl | cases hr

theorem witSem_write {σ : St} {i : Nat} {th : Thread} {w : Out} {o : Op} (hop : th.op = some o)
    (hw : notRead o = true) :
    WitSem σ i th w ↔ th.invAt < th.witAt ∧ σ.lin[th.witAt - 1]? = some (i, .op o, w) := by
  unfold WitSem; rw [hop]
  cases o <;> first | exact Iff.rfl | cases hw

theorem allowed_iff {σ : St} {i t : Nat} : allowed σ i t = true ↔ t = mainTx ∨ σ.owner t = some i := by
  simp [allowed]

theorem allowed_main (σ : St) (i : Nat) : allowed σ i mainTx = true := allowed_iff.mpr (.inl rfl)

theorem allowed_mono {σ σ' : St} {i : Nat} (g : Guar σ σ' i) {j t : Nat} (h : allowed σ j t = true) :
    allowed σ' j t = true :=
  allowed_iff.mpr ((allowed_iff.mp h).imp_right (g.owner t j))

theorem allowed_ne {σ : St} {i j t ti : Nat} (hij : j ≠ i) (h : allowed σ j t = true) (hti : allowed σ i ti = true)
    (htm : t ≠ mainTx) : t ≠ ti := by
  rintro rfl
  have h := (allowed_iff.mp h).resolve_left htm
  rw [(allowed_iff.mp hti).resolve_left htm] at h
  exact hij (Option.some.inj h).symm

theorem regGet_stable {σ σ' : St} {i : Nat} (g : Guar σ σ' i) {j : Nat} (hij : j ≠ i) {t : Nat}
    (h : allowed σ j t = true) : σ'.sys.regGet t = σ.sys.regGet t := by
  obtain ⟨ti, hti, fr⟩ := g.frame
  by_cases htm : t = mainTx
  · subst htm; rw [regGet_main, regGet_main]
  · exact fr.reg t (allowed_ne hij h hti htm)

theorem RegOk.stable {σ σ' : St} {i : Nat} (g : Guar σ σ' i) {j : Nat} (hij : j ≠ i) {tx : TxRec}
    (h : RegOk σ j tx) : RegOk σ' j tx :=
  ⟨allowed_mono g h.1, by rw [regGet_stable g hij h.1]; exact h.2⟩

theorem PrevOk.stable {σ σ' : St} {i : Nat} (g : Guar σ σ' i) {prev : Option Nat}
    (h : PrevOk σ.sys prev) : PrevOk σ'.sys prev := by
  obtain ⟨_, _, fr⟩ := g.frame
  cases prev with
  | none => trivial
  | some p => exact ⟨Nat.lt_of_lt_of_le h.1 fr.nextCid, fr.content_imp (· = none) h.1 rfl h.2⟩

theorem OwnOk.stable {σ σ' : St} {i : Nat} (g : Guar σ σ' i) {j : Nat} (hij : j ≠ i) {tx : TxRec} {k : Key}
    {own : Option Ver} (hr : RegOk σ j tx) (h : OwnOk σ.sys tx k own) : OwnOk σ'.sys tx k own := by
  obtain ⟨ti, hti, fr⟩ := g.frame
  refine ⟨h.1, fun hl hm => ?_, fun hl hm => OptLe.trans (f := Ver.seq) (h.2.2 hl hm) (fr.mainMono k)⟩
  rw [fr.ownL _ _ (allowed_ne hij hr.1 hti hm) hm]; exact h.2.1 hl hm

/-- the meaning of a witness depends on the log only up to the position where it was taken -/
theorem WitSem.stable {σ σ' : St} {i : Nat} (g : Guar σ σ' i) {j : Nat} {th : Thread} {w : Out}
    (hle : th.witAt ≤ σ.lin.length) (h : WitSem σ j th w) : WitSem σ' j th w := by
  obtain ⟨ext, hext, _⟩ := g.lin
  cases hop : th.op with
  | none => unfold WitSem; rw [hop]; trivial
  | some o =>
    cases hr : notRead o with
    | false =>
      rw [witSem_read hop hr] at h ⊢
      unfold specAt; rw [hext, List.take_append_of_le_length hle]; exact h
    | true =>
      rw [witSem_write hop hr] at h ⊢
      exact ⟨h.1, by rw [hext, List.getElem?_append_left (by omega)]; exact h.2⟩

theorem Job.stable {σ σ' : St} {i : Nat} (g : Guar σ σ' i) {j : Nat} (hij : j ≠ i) {todo : List Ver}
    (h : Job σ j todo) : Job σ' j todo := by
  obtain ⟨job, h1, h2⟩ := h
  exact ⟨job, g.busy j job hij h1, h2⟩

theorem SafeHz.stable {σ σ' : St} {i : Nat} (g : Guar σ σ' i) {hz : Nat}
    (h : SafeHz σ.closing σ.sys hz) (hc : hz ≤ σ.sys.counter) :
    SafeHz σ'.closing σ'.sys hz ∧ hz ≤ σ'.sys.counter := by
  obtain ⟨_, _, fr⟩ := g.frame
  refine ⟨fun r hr hrc => ?_, Nat.le_trans hc fr.counter⟩
  -- a registered transaction was registered before, and not inside Commit / Rollback, or began later
  rcases fr.regNew r hr with h1 | h1
  · refine h r h1 fun hin => ?_
    rcases g.closing r.id hin with h2 | h2
    · exact hrc h2
    · exact h2 r hr rfl
  · omega

theorem TInv.stable {σ σ' : St} {i : Nat} (g : Guar σ σ' i) {j : Nat} (hij : j ≠ i) {th : Thread}
    (h : TInv σ j th) : TInv σ' j th := by
  obtain ⟨ext, hext, _⟩ := g.lin
  have hlen : σ.lin.length ≤ σ'.lin.length := by rw [hext, List.length_append]; exact Nat.le_add_right _ _
  refine ⟨Nat.le_trans h.invLe hlen, fun w hw => ?_, ?_⟩
  · obtain ⟨a, b, c⟩ := h.wit w hw
    exact ⟨a, Nat.le_trans b hlen, c.stable g b⟩
  · have hp := h.pc
    obtain ⟨_, _, fr⟩ := g.frame
    generalize th.pc = pc at hp ⊢
    cases pc with
    | idle | ret o | gcHorizon | workTake => exact hp
    | setGuard t k c | delGuard t k | getReg t k | keysReg t | commitDereg t | commitRun t | rollbackDereg t
    | rollbackRun t => exact ⟨allowed_mono g hp.1, hp.2⟩
    | setContent t k c | setStore t k c =>
      exact ⟨allowed_mono g hp.1, hp.2.1, by rw [regGet_stable g hij hp.1]; exact hp.2.2.1, hp.2.2.2⟩
    | delStore t k => exact ⟨allowed_mono g hp.1, hp.2.1, by rw [regGet_stable g hij hp.1]; exact hp.2.2⟩
    | keysOwn tx | gcDelete todo | workDelete todo => exact ⟨hp.1.stable g hij, hp.2⟩
    | getOwn tx k prev => exact ⟨hp.1.stable g hij, hp.2.1, hp.2.2.stable g⟩
    | getBase tx k own prev =>
      obtain ⟨hreg, hop, hprev, hown⟩ := hp
      exact ⟨hreg.stable g hij, hop, hprev.stable g, hown.stable g hij hreg⟩
    | getContent tx k v =>
      obtain ⟨h1, h2, h3, h4, h5⟩ := hp
      exact ⟨h1.stable g hij, h2, h3, Nat.lt_of_lt_of_le h4 fr.nextCid,
        fr.content_imp (fun x => x = none ∨ x = v.val) h4 (.inl rfl) h5⟩
    | keysBase tx own => exact ⟨hp.1.stable g hij, hp.2.1, fun k => (hp.2.2 k).stable g hij hp.1⟩
    | keysContent todo acc =>
      obtain ⟨h1, W, hw, hacc, htodo⟩ := hp
      refine ⟨h1, W, hw, hacc, fun v hv => ?_⟩
      obtain ⟨hb, hin⟩ := htodo v hv
      exact ⟨Nat.lt_of_lt_of_le hb fr.nextCid,
        fr.content_imp (fun x => x.isSome = true → v.key ∈ W) hb nofun hin⟩
    | beginLock t lvl => exact ⟨g.owner t j hp.1, hp.2⟩
    | beginUnlock o => exact ⟨g.hz j hij hp.1, hp.2⟩
    | gcCollect hz => exact ⟨(SafeHz.stable g hp.1 hp.2.1).1, (SafeHz.stable g hp.1 hp.2.1).2, hp.2.2⟩

end FsDb.Conc
