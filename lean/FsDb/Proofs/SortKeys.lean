import FsDb.Model.Sys
/-! `sortKeys` (the model of `sort.Strings`): a sorted permutation. -/
namespace FsDb
open Sys

theorem perm_insertKey (k : Key) (l : List Key) : (insertKey k l).Perm (k :: l) := by
  induction l with
  | nil => exact .refl _
  | cons h t ih =>
    unfold insertKey
    split
    · exact .refl _
    · exact (ih.cons h).trans (.swap k h t)

theorem perm_sortKeys (l : List Key) : (sortKeys l).Perm l := by
  induction l with
  | nil => exact .refl _
  | cons h t ih => exact (perm_insertKey h _).trans (ih.cons h)

theorem mem_sortKeys (a : Key) (l : List Key) : a ∈ sortKeys l ↔ a ∈ l := (perm_sortKeys l).mem_iff

theorem nodup_sortKeys (l : List Key) (h : l.Nodup) : (sortKeys l).Nodup := (perm_sortKeys l).nodup_iff.mpr h

theorem sorted_insertKey (k : Key) (l : List Key) (h : l.Pairwise (· ≤ ·)) :
    (insertKey k l).Pairwise (· ≤ ·) := by
  induction l with
  | nil => simp [insertKey]
  | cons a t ih =>
    obtain ⟨ha, ht⟩ := List.pairwise_cons.mp h
    unfold insertKey
    split
    · rename_i hka
      exact List.pairwise_cons.mpr ⟨List.forall_mem_cons.mpr ⟨hka, fun b hb => String.le_trans hka (ha b hb)⟩, h⟩
    · rename_i hka
      refine List.pairwise_cons.mpr ⟨fun b hb => ?_, ih ht⟩
      rcases List.mem_cons.mp ((perm_insertKey k t).mem_iff.mp hb) with rfl | hb
      · exact Std.le_of_not_ge hka
      · exact ha b hb

theorem sorted_sortKeys (l : List Key) : (sortKeys l).Pairwise (· ≤ ·) := by
  induction l with
  | nil => exact .nil
  | cons h t ih => exact sorted_insertKey h _ ih

end FsDb
