import FsDb.Proofs.ConcStep
/-! The invariant is preserved by every step and every invocation: the main induction of the
    small-step concurrency proof (`step_ok`, `reachable_inv`).  Then what the invariant gives: a thread inside an
    operation can move, or the holder of the horizon mutex can (`progress`); the answers in the log are those of the
    specification run on the logged operations alone, the counter advances erased (`logOps`, `pureAt`,
    `erun_answer_pure`, `log_pure`). -/
namespace FsDb.Conc
open Sys Spec

/-- one `deleteFile` of a job in execution: its versions are dead, so nothing the relation reads changes.
    `hp` is an implication because the assertion at `pc'` contains `Job` in the new state, which is built here. -/
theorem delete_step {σ : St} {i : Nat} {pc : Pc} (h : CInv σ) (hpc : (σ.thr i).pc = pc) (hq : quiet pc = true)
    {v : Ver} {todo : List Ver} {pc' : Pc} (hjob : Job σ i (v :: todo))
    (hp : Job { σ.goto i pc' with sys := delOne σ.sys v } i todo →
          PcInv { σ.goto i pc' with sys := delOne σ.sys v } i (σ.thr i) pc') :
    StepOk σ i { σ.goto i pc' with sys := delOne σ.sys v } := by
  obtain ⟨job, hmem, hsub⟩ := hjob
  refine silent_step h hpc hq (frame_delOne σ.sys v mainTx) (fun _ _ _ hm => hm) ?_
    (hp ⟨job, hmem, fun u hu => hsub u (List.mem_cons_of_mem _ hu)⟩)
  rw [← withB_delOne]
  refine deleteFiles_R h.rel [v] fun u hu => ?_
  rw [List.mem_singleton.mp hu]
  exact h.rel.inv.pendDead job (mem_withBusy hmem) v (hsub v List.mem_cons_self)

theorem finish_step {σ : St} {i : Nat} {pc pc' : Pc} (h : CInv σ) (hpc : (σ.thr i).pc = pc) (hq : quiet pc = true)
    (hp : PcInv { σ.goto i pc' with busy := σ.busy.filter (·.1 ≠ i) } i (σ.thr i) pc') :
    StepOk σ i { σ.goto i pc' with busy := σ.busy.filter (·.1 ≠ i) } :=
  silent_step h hpc hq (Frame.refl _ _) (fun j job hij hm => List.mem_filter.mpr ⟨hm, by simpa using hij⟩)
    (h.rel.pending _ fun job hj => .inl (((List.filter_sublist.map _).append_right _).subset hj)) hp

theorem dereg_step {σ : St} {i : Nat} {pc : Pc} (h : CInv σ) (hpc : (σ.thr i).pc = pc) (hq : quiet pc = true)
    {t : Nat} {pc' : Pc} (htm : t ≠ mainTx) (hal : allowed σ i t = true)
    (hpc' : pc' = .commitRun t ∨ pc' = .rollbackRun t)
    (hp : PcInv { σ.goto i pc' with closing := t :: σ.closing } i (σ.thr i) pc') :
    StepOk σ i { σ.goto i pc' with closing := t :: σ.closing } := by
  have ho : σ.owner t = some i := (allowed_iff.mp hal).resolve_left htm
  refine h.of_step ⟨⟨mainTx, allowed_main σ i, Frame.refl _ _⟩, fun _ _ h => h, no_log _, fun _ _ _ h => h,
      fun _ _ h => h, fun _ ht => .inl (List.mem_cons_of_mem _ ht)⟩
    (List.append_nil _).symm rfl (h.rel.closing_mono fun _ _ hin => List.mem_cons_of_mem _ hin) rfl
    ⟨(h.thr i).invLe, (h.thr i).wit, hp⟩
    (lock_same h hpc (quiet_unlock hq)) (fun t' ht' => ?_) h.ownerMain
  rcases List.mem_cons.mp ht' with rfl | hin
  · exact .inl ⟨ho, hpc'⟩
  · exact closing_same h hpc (quiet_run hq) t' hin

theorem close_step {σ : St} {i : Nat} {pc : Pc} {t : Nat} (h : CInv σ) (hpc : (σ.thr i).pc = pc)
    (hrun : pc = .commitRun t ∨ pc = .rollbackRun t) {op : Op} (hm : isMut op = true) (hop : (σ.thr i).op = some op)
    (hal : allowed σ i t = true) (sh : CommitShape σ.sys t (σ.sys.step op).1) :
    StepOk σ i { σ.linearize i (σ.sys.step op).1 op (σ.sys.step op).2 (.ret (σ.sys.step op).2) with
           closing := σ.closing.filter (· ≠ t) } := by
  obtain ⟨hw, hR⟩ := op_R h op hm
  have hne := sh.reg_ne (inv_sys h)
  refine linearize_step (hz' := σ.hzLock) h hop (isMut_notRead hm) (isMut_plain hm)
    (hR.closing_mono fun r hr hin => List.mem_filter.mpr ⟨hin, by simpa using hne r hr⟩) hw
    ⟨t, hal, frame_of_shape (inv_sys h) sh⟩ (fun _ _ hj => hj)
    (lock_same h hpc fun o e => by rcases hrun with rfl | rfl <;> cases e) ?_ ?_ (ret_of_wit rfl)
  · intro t' ht'
    by_cases e : t' = t
    · subst e; exact .inr hne
    · exact .inl (List.mem_filter.mpr ⟨ht', by simpa using e⟩)
  · intro t' ht'
    obtain ⟨hin, hne'⟩ := List.mem_filter.mp ht'
    -- thread `i` is at `commitRun t` / `rollbackRun t`: the `t'` it owns in `closing` is `t`
    refine .inr ⟨fun ho => ?_, hin⟩
    have hp := hpc ▸ own_closing h hin ho
    rcases hrun with rfl | rfl <;> rcases hp with e | e <;> cases e <;> exact of_decide_eq_true hne' rfl

/-- the collector's log entry is followed by the value of the counter as a counter advance
    (`gcDrawX_R`: the specification's clock follows the counter) -/
theorem horizon_step {σ : St} {i : Nat} (h : CInv σ) (hpc : (σ.thr i).pc = .gcHorizon)
    (hop : (σ.thr i).op = some .gc) :
    StepOk σ i { σ.linearize i (gcDrawX σ.sys σ.closing) .gc .ok (.gcCollect (gcHzX σ.sys σ.closing)) with
      lin := (σ.linearize i (gcDrawX σ.sys σ.closing) .gc .ok (.gcCollect (gcHzX σ.sys σ.closing))).lin
        ++ [(i, .tick (gcDrawX σ.sys σ.closing).counter, .ok)] } := by
  have ht := h.thr i
  have hsafe := gcHzX_safe (inv_sys h) σ.closing
  have hlen : ((σ.lin ++ [(i, EOp.op .gc, Out.ok)]) ++ [(i, EOp.tick (gcDrawX σ.sys σ.closing).counter, Out.ok)]).length
      = σ.lin.length + 2 := by rw [List.length_append, List.length_append]; rfl
  have hR := gcDrawX_R h.rel
  rw [withBusy, withB_gcDrawX] at hR
  refine h.of_quiet hpc rfl rfl (frame_gcDrawX _ _ _)
    (List.append_assoc ..) (List.forall_mem_cons.mpr ⟨rfl, List.forall_mem_singleton.mpr rfl⟩) (fun _ _ _ hm => hm)
    hR ⟨hlen ▸ Nat.le_add_right_of_le ht.invLe, fun w' hw' => ?_, hsafe.1, hsafe.2, rfl⟩
  cases hw'
  refine ⟨Nat.le_succ_of_le ht.invLe, hlen ▸ Nat.le_succ _, (witSem_write (by exact hop) rfl).mpr ⟨Nat.lt_succ_of_le ht.invLe, ?_⟩⟩
  show ((σ.lin ++ [_]) ++ [_])[σ.lin.length]? = _
  rw [List.getElem?_append_left (by rw [List.length_append]; exact Nat.lt_succ_self _)]
  exact List.getElem?_concat_length

theorem step_ok {σ σ' : St} {i : Nat} (h : CInv σ) (hs : step σ i = some σ') : StepOk σ i σ' := by
  have tr := step_trans hs
  have hp := (h.thr i).pc
  have isys := inv_sys h
  generalize hpc : (σ.thr i).pc = pc at tr hp
  -- below, `rfl` proves the side conditions `quiet pc` and `isMut op` of the lemmas about kinds of step
  cases tr with
  | ret o => exact goto_step h hpc rfl trivial
  | setNoTx t k c hg => exact op_step h hpc rfl rfl hp.2 (set_noTx hg) hp.1 (Frame.refl _ _)
  | setEmpty t k c hg hk => subst hk; exact op_step h hpc rfl rfl hp.2 (set_empty hg) hp.1 (Frame.refl _ _)
  | setGuard t k c hg hk => exact goto_step h hpc rfl ⟨hp.1, hp.2, isSome_of_not_isNone hg, hk⟩
  | setContent t k c => exact goto_step h hpc rfl hp
  | setStore t k c =>
    exact op_step h hpc rfl rfl hp.2.1 (set_ok hp.2.2.1 hp.2.2.2) hp.1 (frame_storeSet isys t k c)
  | delNoTx t k hg => exact op_step h hpc rfl rfl hp.2 (del_noTx hg) hp.1 (Frame.refl _ _)
  | delGuard t k hg => exact goto_step h hpc rfl ⟨hp.1, hp.2, isSome_of_not_isNone hg⟩
  | delStore t k => exact op_step h hpc rfl rfl hp.2.1 (del_ok hp.2.2) hp.1 (frame_storeDel isys t k)
  | getNoTx t k hg => exact get_step h hpc rfl hp.1 hp.2 (ret_of_wit (congrArg some (get_noTx hg k)))
  | getReg t k tx hg =>
    obtain rfl := regGet_id hg
    exact goto_step h hpc rfl ⟨⟨hp.1, hg⟩, hp.2, trivial⟩
  | getOwn tx k prev => exact goto_step h hpc rfl ⟨hp.1, hp.2.1, hp.2.2, ownOk_now σ.sys tx k⟩
  | getNone tx k own prev hn =>
    obtain ⟨hreg, hop, _, hown⟩ := hp
    rw [coreGet_of_own hreg.2 hown] at hn
    exact get_step h hpc rfl hreg.1 hop (ret_of_wit (congrArg some (get_none hreg.2 hn)))
  | getAgain tx k own prev v hv hpv =>
    -- the version found again is the one whose content record was missing: it still is
    obtain ⟨hreg, hop, hprev, hown⟩ := hp
    rw [coreGet_of_own hreg.2 hown] at hv
    subst hpv
    exact get_step h hpc rfl hreg.1 hop
      (ret_of_wit (congrArg some ((get_some hreg.2 hv).trans (congrArg outOfVal hprev.2))))
  | getBase tx k own prev v hv _ =>
    obtain ⟨hreg, hop, _, hown⟩ := hp
    rw [coreGet_of_own hreg.2 hown] at hv
    have hvall := coreGet_mem isys tx k hv
    have hstor := isys.stor k v hvall
    exact get_step h hpc rfl hreg.1 hop
      ⟨hreg, hop, congrArg some ((get_some hreg.2 hv).trans (congrArg outOfVal hstor)), isys.cid_lt hvall,
        .inr hstor⟩
  | getHit tx k v c hc =>
    obtain ⟨_, _, hwit, _, hcont⟩ := hp
    refine goto_step h hpc rfl (ret_of_wit ?_)
    rw [hwit]
    rcases hcont with e | e <;> rw [e] at hc
    · cases hc
    · rw [hc]; rfl
  | getMiss tx k v hc =>
    obtain ⟨hreg, hop, _, hlt, _⟩ := hp
    exact goto_step h hpc rfl ⟨hreg, hop, hlt, hc⟩
  | keysNoTx t hg =>
    exact keys_step h hpc rfl hp.1 hp.2 ⟨fun hk => (by simp [isKeys, hp.2] at hk), fun ks e => (by cases e)⟩
  | keysReg t tx hg =>
    obtain rfl := regGet_id hg
    exact goto_step h hpc rfl ⟨⟨hp.1, hg⟩, hp.2⟩
  | keysOwn tx => exact goto_step h hpc rfl ⟨hp.1, hp.2, kOwnOk_now isys tx⟩
  | keysBase tx own =>
    exact keys_step h hpc rfl hp.1.1 hp.2.1
      ⟨by show isKeys (σ.thr i).op = true; rw [hp.2.1]; rfl, keysOk_now isys hp.1.2 hp.2.2⟩
  | keysDone acc =>
    obtain ⟨hk1, W, hw, hacc, _⟩ := hp
    refine goto_step h hpc rfl ⟨fun hk => (by rw [hk1] at hk; cases hk), fun ks e => ?_⟩
    cases e
    exact ⟨W, hw, fun k hk => hacc k ((mem_sortKeys k acc).mp hk)⟩
  | keysNext v todo acc =>
    obtain ⟨hk1, W, hw, hacc, htodo⟩ := hp
    refine goto_step h hpc rfl ⟨hk1, W, hw, fun k hk => ?_, fun u hu => htodo u (List.mem_cons_of_mem _ hu)⟩
    split at hk
    · rename_i hs
      rcases List.mem_append.mp hk with hk | hk
      · exact hacc k hk
      · rw [List.mem_singleton.mp hk]; exact (htodo v List.mem_cons_self).2 hs
    · exact hacc k hk
  | beginLock t lvl hfree =>
    obtain ⟨hw, hR⟩ := op_R h (.begin t lvl) rfl
    have hnone : σ.hzLock = none := Option.not_isSome_iff_eq_none.mp hfree
    exact linearize_step (hz' := some i) (cl' := σ.closing) h hp.2.2 rfl rfl hR hw
      ⟨t, allowed_iff.mpr (.inr hp.1), frame_begin σ.sys t lvl⟩ (fun j _ hj => by rw [hnone] at hj; cases hj)
      (fun j hj => .inl ⟨(Option.some.inj hj).symm, _, rfl⟩) (fun _ ht => .inl ht)
      (closing_same h hpc (quiet_run rfl)) ⟨rfl, rfl⟩
  | beginUnlock o =>
    exact h.of_step ⟨⟨mainTx, allowed_main σ i, Frame.refl _ _⟩, fun _ _ h => h, no_log _, fun _ _ _ h => h,
        fun j hij hj => absurd (Option.some.inj (hj.symm.trans hp.1)) hij, fun _ h => .inl h⟩
      (List.append_nil _).symm rfl h.rel rfl ⟨(h.thr i).invLe, (h.thr i).wit, ret_of_wit hp.2⟩ (fun _ hj => nomatch hj)
      (closing_same h hpc fun _ => ⟨(nomatch ·), (nomatch ·)⟩) h.ownerMain
  | commitDereg t hf => exact dereg_step h hpc rfl hf.1 hp.1 (.inl rfl) hp
  | commitNow t _ => exact op_step h hpc rfl rfl hp.2 rfl hp.1 (frame_commit isys t)
  | commitRun t =>
    exact close_step h hpc (.inl rfl) (op := .commit t) rfl hp.2 hp.1 (commit_shape isys t)
  | rollbackDereg t hf => exact dereg_step h hpc rfl hf.1 hp.1 (.inr rfl) hp
  | rollbackNow t _ => exact op_step h hpc rfl rfl hp.2 rfl hp.1 (frame_rollback isys t)
  | rollbackRun t =>
    exact close_step h hpc (.inr rfl) (op := .rollback t) rfl hp.2 hp.1 (rollback_shape σ.sys t)
  | gcHorizon _ => exact horizon_step h hpc hp
  | gcCollect hz =>
    obtain ⟨hsafe, _, hwit⟩ := hp
    refine silent_step h hpc rfl (frame_collectAt σ.sys hz mainTx) (fun _ _ _ hm => List.mem_append_left _ hm) ?_
      ⟨⟨_, List.mem_append_right _ (List.mem_singleton_self _), fun _ hv => hv⟩, hwit⟩
    -- the collected versions become a job in execution: they are dead (`delsAt_dead`)
    show Rx σ.closing { collectAt (withBusy σ) hz with
      pending := (σ.busy ++ [(i, delsAt σ.sys hz)]).map (·.2) ++ σ.sys.pending } (specOf σ)
    refine (collectAt_R h.rel hsafe).pending _ fun job hj => (mem_busy_push.mp hj).symm.imp_right ?_
    rintro rfl
    exact delsAt_dead h.rel.inv hz
  | gcDone => exact finish_step h hpc rfl (ret_of_wit hp.2)
  | gcDelete v todo => exact delete_step h hpc rfl hp.1 (fun hj => ⟨hj, hp.2⟩)
  | workNone _ =>
    exact linearize_same h hpc rfl hp rfl rfl h.rel rfl ⟨mainTx, allowed_main σ i, Frame.refl _ _⟩ (ret_of_wit rfl)
  | workTake job rest hpend =>
    refine silent_step h hpc rfl (.of_fields mainTx (Nat.le_refl _) fun _ => rfl)
      (fun _ _ _ hm => List.mem_append_left _ hm) ?_
      ⟨⟨job, List.mem_append_right _ (List.mem_singleton_self _), fun _ hv => hv⟩, hp⟩
    rw [withBusy_take hpend]; exact h.rel
  | workDone => exact finish_step h hpc rfl hp.2
  | workDelete v todo => exact delete_step h hpc rfl hp.1 (fun hj => ⟨hj, hp.2⟩)

theorem step_inv {σ σ' : St} {i : Nat} (h : CInv σ) (hs : step σ i = some σ') : CInv σ' := (step_ok h hs).inv

theorem invoke_inv {σ σ' : St} {i : Nat} {op : Op} (h : CInv σ) (hs : invoke σ i op = some σ') : CInv σ' := by
  obtain ⟨hidle, pc, owner', he, rfl, hown⟩ := invoke_some hs
  refine StepOk.inv (σ := σ) (i := i) (h.of_step ⟨⟨mainTx, allowed_main σ i, Frame.refl _ _⟩, ?owner, no_log _,
      fun _ _ _ h => h, fun _ _ h => h, fun _ h => .inl h⟩
    (List.append_nil _).symm rfl h.rel rfl ⟨Nat.le_refl _, nofun, ?entry⟩ (lock_same h hidle fun _ e => nomatch e)
    (closing_same h hidle fun _ => ⟨(nomatch ·), (nomatch ·)⟩) ?main)
  all_goals rcases hown with ⟨t, lvl, rfl, htm, hfree, rfl⟩ | ⟨rfl, hal, hnb⟩
  case owner.inl =>
    intro t' j hj
    by_cases e : t' = t
    · rw [e, hfree] at hj; cases hj
    · exact (if_neg e).trans hj
  case owner.inr => exact fun _ _ hj => hj
  case entry.inl => cases he; exact ⟨if_pos rfl, htm, rfl⟩
  case entry.inr =>
    cases op <;> cases he
    case begin t lvl => exact absurd rfl (hnb t lvl)
    case gc => rfl
    case drain => rfl
    all_goals exact ⟨hal, rfl⟩
  case main.inl => exact (if_neg (Ne.symm htm)).trans h.ownerMain
  case main.inr => exact h.ownerMain

theorem CInv.init : CInv ({} : St) :=
  ⟨R.init, rfl, fun _ => ⟨Nat.le_refl _, nofun, trivial⟩, nofun, fun _ ht => absurd ht List.not_mem_nil, rfl,
    fun _ he => absurd he List.not_mem_nil⟩

theorem next_ind {P : St → Prop} {σ : St} (a : Act) (same : P σ)
    (called : ∀ i op σ', invoke σ i op = some σ' → P σ') (ran : ∀ i σ', step σ i = some σ' → P σ') : P (next σ a) := by
  cases a with
  | call i op =>
    show P ((invoke σ i op).getD σ)
    cases hs : invoke σ i op with
    | none => exact same
    | some σ' => exact called i op σ' hs
  | run i =>
    show P ((step σ i).getD σ)
    cases hs : step σ i with
    | none => exact same
    | some σ' => exact ran i σ' hs

theorem next_inv {σ : St} (h : CInv σ) (a : Act) : CInv (next σ a) :=
  next_ind a h (fun _ _ _ => invoke_inv h) fun _ _ => step_inv h

theorem exec_inv {σ : St} (h : CInv σ) (acts : List Act) : CInv (exec σ acts) := by
  induction acts generalizing σ with
  | nil => exact h
  | cons a acts ih => exact ih (next_inv h a)

theorem reachable_inv (acts : List Act) : CInv (exec {} acts) := exec_inv CInv.init acts

theorem progress {σ : St} (h : CInv σ) (i : Nat) (hbusy : (σ.thr i).pc ≠ .idle) :
    (step σ i).isSome = true ∨ ∃ j, σ.hzLock = some j ∧ (step σ j).isSome = true := by
  cases hl : σ.hzLock with
  | some j =>
    obtain ⟨o, ho⟩ := h.lock j hl
    exact .inr ⟨j, rfl, by unfold step; rw [ho]; rfl⟩
  | none =>
    -- with the mutex free every branch of `step` but the one for `idle` is `some _`
    left
    fun_cases step σ i
    any_goals rfl
    · exact absurd ‹_› hbusy
    all_goals exact absurd ‹σ.hzLock.isSome = true› (by rw [hl]; nofun)

def logOps (σ : St) (n : Nat) : List Op := opsOf (linOps (σ.lin.take n))

def pureAt (σ : St) (n : Nat) : State := (Spec.run {} (logOps σ n)).1

theorem erun_answer_pure (es : List EOp) (hp : ∀ e ∈ es, e.plain = true) (op : Op) (hop : plainOp op = true) :
    (Spec.step (Spec.erun {} es).1 op).2 = (Spec.step (Spec.run {} (opsOf es)).1 op).2 := by
  have hp' : ∀ e ∈ es ++ [.op op], e.plain = true := fun e he =>
    (List.mem_append.mp he).elim (hp e) fun he => List.mem_singleton.mp he ▸ hop
  have h1 := erun_erases (es ++ [.op op]) hp'
  have h0 := erun_erases es hp
  rw [Spec.erun_append, opsOf_append_op, Spec.run_append, h0] at h1
  exact List.singleton_inj.mp (List.append_cancel_left h1)

theorem log_plain {σ : St} (h : CInv σ) : ∀ e ∈ linOps σ.lin, e.plain = true :=
  List.forall_mem_map.mpr h.plain

theorem take_plain {σ : St} (h : CInv σ) (n : Nat) : ∀ e ∈ linOps (σ.lin.take n), e.plain = true :=
  List.forall_mem_map.mpr fun x hx => h.plain x (List.mem_of_mem_take hx)

theorem specAt_get_pure {σ : St} (h : CInv σ) (n t : Nat) (k : Key) :
    Spec.get (specAt σ n) t k = Spec.get (pureAt σ n) t k :=
  erun_answer_pure _ (take_plain h n) (.get t k) rfl

theorem specAt_getKeys_pure {σ : St} (h : CInv σ) (n t : Nat) :
    Spec.getKeys (specAt σ n) t = Spec.getKeys (pureAt σ n) t :=
  erun_answer_pure _ (take_plain h n) (.keys t) rfl

theorem log_pure {σ : St} (h : CInv σ) : (Spec.run {} (opsOf (linOps σ.lin))).2 = linOuts σ.lin := by
  rw [← erun_erases (linOps σ.lin) (log_plain h)]
  exact h.outs

end FsDb.Conc
