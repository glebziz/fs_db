import FsDb.Model.Codec
/-! The two number formats of the persisted records.  `le64` and `fromLe64` are written out byte by byte in the
    model; they are the 8-digit case of the base-256 little-endian numeral (`leBytes k n`: the `k` low digits of `n`;
    `leVal`: the value of a digit list), and every fact about them is the general fact, proved by induction on the
    digits, read at 8.  The record decoder with its offsets evaluated (`decode_eq`).  The hexadecimal text of the
    uuids: parsing undoes formatting, byte by byte. -/
namespace FsDb.Codec

def leBytes : Nat → Nat → Bytes
  | 0, _ => []
  | k + 1, n => UInt8.ofNat (n % 256) :: leBytes k (n / 256)

def leVal : Bytes → Nat
  | [] => 0
  | b :: t => b.toNat + 256 * leVal t

theorem leVal_leBytes (k n : Nat) : leVal (leBytes k n) = n % 256 ^ k := by
  induction k generalizing n with
  | zero => rw [leBytes, leVal, Nat.pow_zero, Nat.mod_one]
  | succ k ih =>
    rw [leBytes, leVal, ih, Nat.pow_succ', Nat.mod_mul, UInt8.toNat_ofNat', Nat.mod_mod]

theorem leBytes_leVal (bs : Bytes) : leBytes bs.length (leVal bs) = bs := by
  induction bs with
  | nil => rfl
  | cons b t ih =>
    rw [List.length_cons, leVal, leBytes, Nat.add_mul_mod_self_left, Nat.mod_eq_of_lt b.toNat_lt,
      Nat.add_mul_div_left _ _ (by decide), Nat.div_eq_of_lt b.toNat_lt, Nat.zero_add, ih, UInt8.ofNat_toNat]

theorem toNat_getElem_leBytes (k n i : Nat) (h : i < (leBytes k n).length) :
    (leBytes k n)[i].toNat = n / 256 ^ i % 256 := by
  induction k generalizing n i with
  | zero => cases h
  | succ k ih =>
    cases i with
    | zero => simp only [leBytes, List.getElem_cons_zero, UInt8.toNat_ofNat', Nat.mod_mod, Nat.pow_zero, Nat.div_one]
    | succ i => simp only [leBytes, List.getElem_cons_succ, ih, Nat.div_div_eq_div_mul, Nat.pow_succ']

theorem leVal_take_succ (bs : Bytes) (k : Nat) :
    leVal (bs.take (k + 1)) = leVal (bs.take k) + 256 ^ k * (bs.getD k 0).toNat := by
  induction bs generalizing k with
  | nil => simp [leVal]
  | cons b t ih =>
    cases k with
    | zero => simp [leVal]
    | succ k =>
      simp only [List.take_succ_cons, leVal, ih, List.getD_cons_succ, Nat.pow_succ', Nat.mul_add,
        Nat.mul_assoc, Nat.add_assoc]

theorem le64_eq (n : Nat) : le64 n = leBytes 8 n := by
  simp only [le64, leBytes, Nat.div_div_eq_div_mul]

theorem fromLe64_eq (bs : Bytes) : fromLe64 bs = leVal (bs.take 8) := by
  simp only [leVal_take_succ, List.take_zero, leVal, fromLe64, Nat.reducePow, Nat.zero_add, Nat.one_mul]

theorem le64_length (n : Nat) : (le64 n).length = 8 := rfl

theorem fromLe64_le64 {n : Nat} (h : n < 2^64) : fromLe64 (le64 n) = n := by
  rw [fromLe64_eq, List.take_of_length_le (Nat.le_of_eq (le64_length n)), le64_eq, leVal_leBytes]
  exact Nat.mod_eq_of_lt h

theorem le64_fromLe64 {bs : Bytes} (h : bs.length = 8) : le64 (fromLe64 bs) = bs := by
  rw [fromLe64_eq, le64_eq, List.take_of_length_le (Nat.le_of_eq h), ← h, leBytes_leVal]

theorem fromLe64_append (a b : Bytes) (h : a.length = 8) : fromLe64 (a ++ b) = fromLe64 a := by
  rw [fromLe64_eq, fromLe64_eq, List.take_left' h, List.take_of_length_le (Nat.le_of_eq h)]

theorem decode_eq (bs : Bytes) : decode bs =
    if bs.length < 40 then none
    else some ⟨fromLe64 (bs.take 8), (bs.drop 8).take 16, ((bs.drop 8).drop 16).take 16,
      ((bs.drop 8).drop 16).drop 16⟩ := by
  simp only [List.drop_drop]; rfl

theorem hexVal_hexDigit : ∀ n < 16, hexVal (hexDigit n) = some n := by decide

theorem parseByte_fmtByte (b : UInt8) : parseByte (hexDigit (b.toNat / 16)) (hexDigit (b.toNat % 16)) = some b := by
  have hi : b.toNat / 16 < 16 := Nat.div_lt_of_lt_mul b.toNat_lt
  simp only [parseByte, hexVal_hexDigit _ hi, hexVal_hexDigit _ (Nat.mod_lt _ (by decide)),
    Nat.div_add_mod', UInt8.ofNat_toNat]

theorem parseHex_fmtBytes (bs : Bytes) : parseHex (fmtBytes bs) = some bs := by
  induction bs with
  | nil => rfl
  | cons b t ih =>
    simp only [fmtBytes, fmtByte, List.cons_append, List.nil_append, parseHex, parseByte_fmtByte, ih]

theorem fmtBytes_length (bs : Bytes) : (fmtBytes bs).length = 2 * bs.length := by
  induction bs with
  | nil => rfl
  | cons b t ih => simp [fmtBytes, fmtByte, ih]; omega

end FsDb.Codec
