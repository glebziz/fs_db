import FsDb.Model.VFile
import FsDb.Proofs.Lists
/-! The per-key version list: `bsearch` computes `lastBeforeSpec`; what `collect` takes and what it leaves;
    `VFile.WF` under the operations. -/
namespace FsDb

theorem SortedSeq.take {l : List Ver} (h : SortedSeq l) (n : Nat) : SortedSeq (l.take n) :=
  List.Pairwise.sublist (List.take_sublist n l) h

theorem SortedSeq.drop {l : List Ver} (h : SortedSeq l) (n : Nat) : SortedSeq (l.drop n) :=
  List.Pairwise.sublist (List.drop_sublist n l) h

theorem SortedSeq.nil : SortedSeq [] := List.Pairwise.nil

theorem SortedSeq.filter {l : List Ver} (h : SortedSeq l) (p : Ver → Bool) : SortedSeq (l.filter p) :=
  List.Pairwise.sublist List.filter_sublist h

theorem SortedSeq.dropLast {l : List Ver} (h : SortedSeq l) : SortedSeq l.dropLast :=
  List.Pairwise.sublist (List.dropLast_sublist _) h

theorem SortedSeq.concat {l : List Ver} (h : SortedSeq l) {v : Ver}
    (hv : ∀ u ∈ l, u.seq < v.seq) : SortedSeq (l ++ [v]) :=
  pairwise_concat.mpr ⟨h, hv⟩

theorem SortedSeq.lt_of_lt {l : List Ver} (h : SortedSeq l) {i j : Nat} (hi : i < l.length)
    (hj : j < l.length) (hij : i < j) : l[i].seq < l[j].seq :=
  List.pairwise_iff_getElem.mp h i j hi hj hij

theorem SortedSeq.le_of_le {l : List Ver} (h : SortedSeq l) {i j : Nat} (hi : i < l.length)
    (hj : j < l.length) (hij : i ≤ j) : l[i].seq ≤ l[j].seq := by
  rcases Nat.lt_or_eq_of_le hij with h1 | h1
  · exact Nat.le_of_lt (h.lt_of_lt hi hj h1)
  · subst h1; exact Nat.le_refl _

theorem SortedSeq.eq_of_seq_eq {l : List Ver} (hs : SortedSeq l) {a b : Ver} (ha : a ∈ l) (hb : b ∈ l)
    (h : a.seq = b.seq) : a = b := by
  obtain ⟨i, hi, rfl⟩ := List.getElem_of_mem ha
  obtain ⟨j, hj, rfl⟩ := List.getElem_of_mem hb
  rcases Nat.lt_trichotomy i j with hij | hij | hij
  · have := hs.lt_of_lt hi hj hij; omega
  · subst hij; rfl
  · have := hs.lt_of_lt hj hi hij; omega

theorem SortedSeq.disjoint_append {a b : List Ver} (h : SortedSeq (a ++ b)) {u : Ver} (h1 : u ∈ a) (h2 : u ∈ b) : False :=
  Nat.lt_irrefl _ ((List.pairwise_append.mp h).2.2 u h1 u h2)

theorem lastBeforeSpec_append_cons {a b : List Ver} {x : Ver} (h : SortedSeq (a ++ x :: b)) (s : Nat) :
    lastBeforeSpec (a ++ x :: b) s =
      if x.seq < s then some ((lastBeforeSpec b s).getD x) else lastBeforeSpec a s := by
  have hxb := (List.pairwise_append.mp h).2.1
  unfold lastBeforeSpec
  rw [List.filter_append, List.filter_cons]
  by_cases hx : x.seq < s
  · rw [if_pos (decide_eq_true hx), if_pos hx, List.getLast?_append, List.getLast?_cons]; rfl
  · have hb : b.filter (fun v => decide (v.seq < s)) = [] := List.filter_eq_nil_iff.mpr fun v hv hvs =>
      hx (Nat.lt_trans (List.rel_of_pairwise_cons hxb hv) (of_decide_eq_true hvs))
    rw [if_neg (mt of_decide_eq_true hx), if_neg hx, hb, List.append_nil]

theorem lastBeforeSpec_mem {l : List Ver} {b : Nat} {v : Ver} (h : lastBeforeSpec l b = some v) : v ∈ l ∧ v.seq < b :=
  have hm := List.mem_filter.mp (List.mem_of_getLast? h)
  ⟨hm.1, of_decide_eq_true hm.2⟩

theorem lastBeforeSpec_at {l : List Ver} (h : SortedSeq l) {n : Nat} (hn : n < l.length) (s : Nat) :
    lastBeforeSpec l s =
      if l[n].seq < s then some ((lastBeforeSpec (l.drop (n+1)) s).getD l[n]) else lastBeforeSpec (l.take n) s := by
  have e : l.take n ++ l[n] :: l.drop (n+1) = l := by rw [← List.drop_eq_getElem_cons hn, List.take_append_drop]
  have := lastBeforeSpec_append_cons (a := l.take n) (x := l[n]) (b := l.drop (n+1)) (by rwa [e]) s
  rwa [e] at this

/-- C18 core: the binary search of file.go computes "newest version before the probe". -/
theorem bsearch_eq_spec {l : List Ver} (h : SortedSeq l) (s : Nat) :
    bsearch l s = lastBeforeSpec l s := by
  fun_induction bsearch l s with
  | case1 arr h0 => rw [List.eq_nil_of_length_eq_zero h0]; rfl
  | case2 arr h0 n hn hs ih => rw [ih (h.take n), lastBeforeSpec_at h hn, if_neg hs]
  | case3 arr h0 n hn hs h1 =>
    rw [lastBeforeSpec_at h hn, if_pos (Decidable.not_not.mp hs),
      List.drop_eq_nil_of_le (Nat.le_add_of_sub_le (Nat.le_of_eq h1.symm))]; rfl
  | case4 arr h0 n hn hs h1 hn1 hs1 =>
    rw [lastBeforeSpec_at h hn, if_pos (Decidable.not_not.mp hs),
      lastBeforeSpec_at (h.drop (n+1)) (n := 0) (List.length_drop ▸ Nat.sub_pos_of_lt hn1)]
    simp [hs1, lastBeforeSpec]
  | case5 arr h0 n hn hs h1 hn1 hs1 ih =>
    rw [ih (h.drop (n+1)), lastBeforeSpec_at h hn, if_pos (Decidable.not_not.mp hs)]
    rw [lastBeforeSpec_at (h.drop (n+1)) (n := 0) (List.length_drop ▸ Nat.sub_pos_of_lt hn1)]
    simp [Decidable.not_not.mp hs1]

theorem collect_append (l : List Ver) (hz : Nat) : (collect l hz).1 ++ (collect l hz).2 = l := by
  fun_induction collect l hz with
  | case1 a b rest hz hc r ih => simp [r, ih]
  | case2 a b rest hz hc => simp
  | case3 l hz hne => simp

theorem collect_getLast? (l : List Ver) (hz : Nat) : (collect l hz).2.getLast? = l.getLast? := by
  fun_induction collect l hz with
  | case1 a b rest hz hc r ih => rw [ih]; simp [List.getLast?_cons_cons]
  | case2 a b rest hz hc => rfl
  | case3 l hz hne => rfl

theorem collect_snd_ne_nil (l : List Ver) (hz : Nat) (h : l ≠ []) : (collect l hz).2 ≠ [] :=
  fun e => h (List.getLast?_eq_none_iff.mp (by rw [← collect_getLast? l hz, e]; rfl))

theorem collect_fst_lt (l : List Ver) (hz : Nat) (h : SortedSeq l) :
    ∀ v ∈ (collect l hz).1, v.seq < hz := by
  fun_induction collect l hz with
  | case1 a b rest hz hc r ih =>
    intro v hv
    simp only [List.mem_cons] at hv
    rcases hv with rfl | hv
    · have : v.seq < b.seq := List.rel_of_pairwise_cons h List.mem_cons_self
      omega
    · exact ih (List.Pairwise.of_cons h) v hv
  | case2 a b rest hz hc => simp
  | case3 l hz hne => simp

theorem collect_snd_stop (l : List Ver) (hz : Nat) :
    ∀ a b rest, (collect l hz).2 = a :: b :: rest → ¬ (b.seq ≠ 0 ∧ ¬ b.seq > hz) := by
  fun_induction collect l hz with
  | case1 a b rest hz hc r ih => exact ih
  | case2 a b rest hz hc =>
    intro a' b' rest' he
    simp only [List.cons.injEq] at he
    obtain ⟨rfl, rfl, rfl⟩ := he
    exact hc
  | case3 l hz hne =>
    intro a b rest he
    exact absurd he (by intro h; exact hne a b rest h)

/-- by position: a version is taken exactly when its successor is not newer than the horizon, so the newest one
    `≤ hz`, if there is one, is the oldest left -/
theorem collect_exact (l : List Ver) (hz : Nat) (h : SortedSeq l) (hpos : ∀ v ∈ l, v.seq ≠ 0)
    (i : Nat) (hi : i < l.length) :
    i < (collect l hz).1.length ↔ ∃ h1 : i + 1 < l.length, l[i+1].seq ≤ hz := by
  fun_induction collect l hz generalizing i with
  | case1 a b rest hz hc r ih =>
    cases i with
    | zero => exact ⟨fun _ => ⟨Nat.succ_lt_succ (Nat.succ_pos _), Nat.le_of_not_gt hc.2⟩, fun _ => Nat.succ_pos _⟩
    | succ j =>
      have := ih (List.Pairwise.of_cons h) (fun v hv => hpos v (List.mem_cons_of_mem _ hv)) j (Nat.lt_of_succ_lt_succ hi)
      exact (Nat.succ_lt_succ_iff.trans this).trans (exists_prop_congr (fun _ => .rfl) Nat.succ_lt_succ_iff.symm)
  | case2 a b rest hz hc =>
    -- the second version is newer than the horizon, and so is everything after it
    refine iff_of_false (Nat.not_lt_zero _) fun ⟨h1, h2⟩ => ?_
    have hb : hz < b.seq := Nat.lt_of_not_le fun hle => hc ⟨hpos b (by simp), Nat.not_lt.mpr hle⟩
    have := h.le_of_le (i := 1) (j := i + 1) (Nat.succ_lt_succ (Nat.succ_pos _)) h1 (Nat.succ_le_succ (Nat.zero_le _))
    exact absurd (Nat.lt_of_lt_of_le hb this) (Nat.not_lt.mpr h2)
  | case3 l hz hne =>
    refine iff_of_false (Nat.not_lt_zero _) fun ⟨h1, _⟩ => ?_
    obtain _ | ⟨a, _ | ⟨b, rest⟩⟩ := l
    · exact Nat.not_lt_zero _ h1
    · exact Nat.not_lt_zero _ (Nat.lt_of_succ_lt_succ h1)
    · exact hne a b rest rfl

theorem collect_snd_sublist {l : List Ver} {hz : Nat} : List.Sublist (collect l hz).2 l := by
  have h := List.sublist_append_right (collect l hz).1 (collect l hz).2
  rwa [collect_append] at h

theorem collect_fst_sublist {l : List Ver} {hz : Nat} : List.Sublist (collect l hz).1 l := by
  have h := List.sublist_append_left (collect l hz).1 (collect l hz).2
  rwa [collect_append] at h

theorem collect_head_le (l : List Ver) (hz : Nat) (h : (collect l hz).1 ≠ []) :
    ∃ hd, (collect l hz).2.head? = some hd ∧ hd.seq ≤ hz := by
  fun_induction collect l hz with
  | case1 a b rest hz hc r ih =>
    by_cases hr : r.1 = []
    · have happ : r.1 ++ r.2 = b :: rest := collect_append (b :: rest) hz
      rw [hr, List.nil_append] at happ
      exact ⟨b, congrArg List.head? happ, by omega⟩
    · exact ih hr
  | case2 a b rest hz hc => exact absurd rfl h
  | case3 l hz hne => exact absurd rfl h

/-- the oldest version left is before the probe; at the horizon itself that needs that the horizon is no
    version number -/
theorem lastBeforeSpec_collect (l : List Ver) (hz s : Nat)
    (hs : hz < s ∨ (hz = s ∧ ∀ v ∈ l, v.seq ≠ hz)) :
    lastBeforeSpec (collect l hz).2 s = lastBeforeSpec l s := by
  have happ := collect_append l hz
  by_cases hne : (collect l hz).1 = []
  · rw [hne, List.nil_append] at happ; rw [happ]
  obtain ⟨hd, hh, hle⟩ := collect_head_le l hz hne
  have hm := List.mem_of_head? hh
  have hlt : hd.seq < s := hs.elim (Nat.lt_of_le_of_lt hle) fun ⟨e, hv⟩ =>
    e ▸ Nat.lt_of_le_of_ne hle (hv hd (collect_snd_sublist.subset hm))
  have hf : hd ∈ (collect l hz).2.filter (fun v => decide (v.seq < s)) := List.mem_filter.mpr ⟨hm, decide_eq_true hlt⟩
  conv => rhs; rw [← happ]
  unfold lastBeforeSpec
  rw [List.filter_append, List.getLast?_append, Option.or_of_isSome]
  exact Option.isSome_iff_ne_none.mpr fun e => List.ne_nil_of_mem hf (List.getLast?_eq_none_iff.mp e)

theorem collect_snd_of_le {l : List Ver} {hz : Nat} (h : ∀ v ∈ l, v.seq ≠ 0 ∧ v.seq ≤ hz) :
    (collect l hz).2 = l.getLast?.toList := by
  rw [← collect_getLast? l hz]
  match hc : (collect l hz).2 with
  | [] => rfl
  | [_] => rfl
  | a :: b :: rest =>
    -- the collector stops only before a version that is newer than the horizon
    have hb := h b (collect_snd_sublist.subset (hc ▸ List.mem_cons_of_mem _ List.mem_cons_self))
    exact absurd ⟨hb.1, Nat.not_lt.mpr hb.2⟩ (collect_snd_stop l hz a b rest hc)

theorem VFile.WF.sub {f : VFile} (h : f.WF) {l' arr' : List Ver} (hl : l'.Sublist f.l) (ha : f.ws = false → arr' = l') :
    ({ f with l := l', arr := arr' } : VFile).WF :=
  ⟨h.sorted.sublist hl, ha, fun u hu => h.pos u (hl.subset hu)⟩

theorem VFile.WF.pushBack {f : VFile} (h : f.WF) {v : Ver} (hv : ∀ u ∈ f.l, u.seq < v.seq)
    (hpos : v.seq ≠ 0) : (f.pushBack v).WF where
  sorted := h.sorted.concat hv
  mirror hws := by simp [VFile.pushBack, show f.ws = false from hws, h.mirror hws]
  pos := List.forall_mem_append.mpr ⟨h.pos, fun u hu => List.mem_singleton.mp hu ▸ hpos⟩

theorem VFile.WF.popBack {f : VFile} (h : f.WF) : (f.popBack).2.WF := by
  unfold VFile.popBack
  split
  · exact h
  · exact h.sub (List.dropLast_sublist _) fun hws => by simp [hws, h.mirror hws]

theorem VFile.WF.popFront {f : VFile} (h : f.WF) : (f.popFront).2.WF := by
  unfold VFile.popFront
  split
  · exact h
  · next v t hl => exact h.sub (hl ▸ List.sublist_cons_self v t) fun hws => by simp [hws, h.mirror hws, hl]

theorem VFile.WF.collectOld {f : VFile} (h : f.WF) (hz : Nat) : (f.collectOld hz).2.WF :=
  h.sub collect_snd_sublist fun hws => by
    have : f.l.drop (collect f.l hz).1.length = (collect f.l hz).2 := by
      conv => lhs; arg 2; rw [← collect_append f.l hz]
      simp
    simpa [hws, h.mirror hws] using this

/-- the guard of `lastBefore` (an empty array) is a case of the search itself -/
theorem guardedBsearch_eq_spec {l : List Ver} (h : SortedSeq l) (s : Nat) :
    (if l.length = 0 then none else bsearch l s) = lastBeforeSpec l s := by
  rw [← bsearch_eq_spec h s]
  split
  · next h0 => rw [bsearch, dif_pos h0]
  · rfl

theorem VFile.lastBefore_eq_spec {f : VFile} (h : f.WF) (hws : f.ws = false) (s : Nat) :
    f.lastBefore s = lastBeforeSpec f.l s := by
  unfold VFile.lastBefore
  rw [h.mirror hws]
  exact guardedBsearch_eq_spec h.sorted s

end FsDb
