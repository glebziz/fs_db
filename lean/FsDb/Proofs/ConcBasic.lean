import FsDb.Proofs.ConcFrame
import FsDb.Proofs.MultiDb
/-! The ghost view of the small-step model: the specification state of a log prefix, the shared state
    with the jobs in execution put back into the deletion queue (`withB`, which commutes with every
    sub-step), and `step` / `invoke` as inversion principles (`Trans`, `invoke_some`). -/
namespace FsDb.Conc
open Sys Spec

def linOps (l : List (Nat × EOp × Out)) : List EOp := l.map (·.2.1)
def linOuts (l : List (Nat × EOp × Out)) : List Out :=
  l.filterMap (fun e => match e.2.1 with | .op _ => some e.2.2 | .tick _ => none)

theorem linOps_append (a b : List (Nat × EOp × Out)) : linOps (a ++ b) = linOps a ++ linOps b := List.map_append

theorem linOuts_append (a b : List (Nat × EOp × Out)) : linOuts (a ++ b) = linOuts a ++ linOuts b :=
  List.filterMap_append

/-- the specification's clock follows the counter advances of the log (`Spec.erun`); the answers do
    not depend on them (`erun_answer_pure`, `log_pure`) -/
def specAt (σ : St) (n : Nat) : State := (Spec.erun {} (linOps (σ.lin.take n))).1
def specOf (σ : St) : State := (Spec.erun {} (linOps σ.lin)).1

theorem specAt_length (σ : St) : specAt σ σ.lin.length = specOf σ := by
  simp [specAt, specOf]

def withB (b : List (List Ver)) (s : Sys) : Sys := { s with pending := b ++ s.pending }
def withBusy (σ : St) : Sys := withB (σ.busy.map (·.2)) σ.sys

theorem mem_withBusy {σ : St} {j : Nat} {job : List Ver} (hm : (j, job) ∈ σ.busy) : job ∈ (withBusy σ).pending :=
  List.mem_append_left _ (List.mem_map.mpr ⟨(j, job), hm, rfl⟩)

theorem mem_busy_push {b : List (Nat × List Ver)} {p : List (List Ver)} {i : Nat} {job x : List Ver} :
    x ∈ (b ++ [(i, job)]).map (·.2) ++ p ↔ x = job ∨ x ∈ b.map (·.2) ++ p := by
  rw [List.map_append, List.append_assoc, List.mem_append, List.mem_append (s := b.map _)]
  exact (or_congr_right List.mem_cons).trans or_left_comm

theorem withBusy_take {σ : St} {job : List Ver} {rest : List (List Ver)} (hp : σ.sys.pending = job :: rest) (i : Nat) :
    withB ((σ.busy ++ [(i, job)]).map (·.2)) { σ.sys with pending := rest } = withBusy σ := by
  unfold withBusy withB
  rw [hp, List.map_append, List.append_assoc]; rfl

theorem _root_.FsDb.Inv.of_withB {b : List (List Ver)} {s : Sys} (i : Inv (withB b s)) : Inv s :=
  i.pending s.pending fun _ hj => .inl (List.mem_append_right _ hj)

theorem set_ok {s : Sys} {t : Nat} {k : Key} {c : Nat} (h : (s.regGet t).isSome = true) (hk : k ≠ "") :
    s.set t k c = (storeSet s t k c, .ok) :=
  (if_neg (by simp [Option.isSome_iff_ne_none.mp h])).trans (if_neg hk)

theorem del_ok {s : Sys} {t : Nat} {k : Key} (h : (s.regGet t).isSome = true) :
    s.del t k = (storeDel s t k, .ok) :=
  if_neg (by simp [Option.isSome_iff_ne_none.mp h])

section withB
variable (b : List (List Ver)) (s : Sys)

@[simp] theorem withB_counter : (withB b s).counter = s.counter := rfl
@[simp] theorem withB_main : (withB b s).main = s.main := rfl
@[simp] theorem withB_txs : (withB b s).txs = s.txs := rfl
@[simp] theorem withB_all : (withB b s).all = s.all := rfl
@[simp] theorem withB_reg : (withB b s).reg = s.reg := rfl
@[simp] theorem withB_dom : (withB b s).dom = s.dom := rfl
@[simp] theorem withB_nextCid : (withB b s).nextCid = s.nextCid := rfl
@[simp] theorem withB_cfs : (withB b s).cfs = s.cfs := rfl
@[simp] theorem withB_recs : (withB b s).recs = s.recs := rfl
@[simp] theorem withB_pending : (withB b s).pending = b ++ s.pending := rfl

theorem withB_get (t : Nat) (k : Key) : (withB b s).get t k = s.get t k := rfl
theorem withB_getKeys (t : Nat) : (withB b s).getKeys t = s.getKeys t := rfl
theorem withB_regGet (t : Nat) : (withB b s).regGet t = s.regGet t := rfl
theorem withB_hasContent (cid : Nat) : (withB b s).hasContent cid = s.hasContent cid := rfl

theorem withB_begin (t : Nat) (lvl : Level) :
    (withB b s).begin t lvl = (withB b (s.begin t lvl).1, (s.begin t lvl).2) := by
  unfold Sys.begin
  rw [withB_reg]
  split <;> rfl

theorem withB_coreStore (t : Nat) (k : Key) (cid : Nat) (val : Option Nat) :
    (withB b s).coreStore t k cid val = withB b (s.coreStore t k cid val) := by
  rw [coreStore_eq, coreStore_eq]; rfl

theorem withB_afterStore (extra : List (Nat × Nat)) (t : Nat) (k : Key) (val : Option Nat) :
    afterStore (withB b s) extra t k val = withB b (afterStore s extra t k val) :=
  withB_coreStore b (preStore s extra) t k s.nextCid val

theorem withB_set (t : Nat) (k : Key) (c : Nat) :
    (withB b s).set t k c = (withB b (s.set t k c).1, (s.set t k c).2) := by
  rw [set_eq, set_eq, withB_regGet, withB_afterStore]
  split
  · rfl
  split <;> rfl

theorem withB_del (t : Nat) (k : Key) :
    (withB b s).del t k = (withB b (s.del t k).1, (s.del t k).2) := by
  rw [del_eq, del_eq, withB_regGet, withB_afterStore]
  split <;> rfl

theorem withB_discard (t : Nat) (removed job : List Ver) :
    discard (withB b s) t removed job = withB b (discard s t removed job) := by
  unfold discard Sys.submit withB
  dsimp only
  split
  · rfl
  · rw [List.append_assoc]

theorem withB_pubState (t : Nat) (st : Store) (recs' : List Ver) :
    pubState (withB b s) t st recs' = withB b (pubState s t st recs') := by
  unfold pubState
  rw [withB_discard]
  rfl

/-- Commit and Rollback read the queue only to append their job (`commit_found`, `rollback_fst`) -/
theorem withB_commit (ib : Inv (withB b s)) (t : Nat) :
    (withB b s).commit t = (withB b (s.commit t).1, (s.commit t).2) := by
  by_cases hc : t = mainTx ∨ s.reg.find? (·.id = t) = none
  · rw [commit_not_found hc, commit_not_found (c := withB b s) hc]
  · obtain ⟨tx, hf⟩ := Option.ne_none_iff_exists'.mp fun e => hc (.inr e)
    rw [commit_found ib.of_withB (fun e => hc (.inl e)) hf, commit_found ib (fun e => hc (.inl e)) hf, withB_txs]
    split
    · rfl
    · show (if conflictOf tx s.dom s.main _ = true then _ else if (cLasts s _).isEmpty = true then _ else _) = _
      split
      · exact Prod.ext (withB_discard ..) rfl
      · split
        · exact Prod.ext (withB_discard ..) rfl
        · exact Prod.ext (withB_pubState ..) rfl

theorem withB_rollback (t : Nat) :
    (withB b s).rollback t = (withB b (s.rollback t).1, (s.rollback t).2) := by
  refine Prod.ext ?_ ((rollback_snd _ t).trans (rollback_snd s t).symm)
  rw [rollback_fst, rollback_fst, withB_reg, withB_txs]
  split
  · rfl
  · split
    · rfl
    · exact withB_discard ..

theorem withB_gcHz : gcHz (withB b s) = gcHz s := rfl
theorem withB_gcHzX (cl : List Nat) : gcHzX (withB b s) cl = gcHzX s cl := rfl
theorem withB_gcDrawX (cl : List Nat) : gcDrawX (withB b s) cl = withB b (gcDrawX s cl) := by
  unfold gcDrawX liveReg
  simp only [withB_reg]
  split <;> rfl
theorem withB_gcDraw : gcDraw (withB b s) = withB b (gcDraw s) := by
  rw [gcDraw_eq, gcDraw_eq, withB_gcDrawX]
theorem withB_delsAt (hz : Nat) : delsAt (withB b s) hz = delsAt s hz := rfl
theorem withB_collectAt (hz : Nat) : collectAt (withB b s) hz = withB b (collectAt s hz) := rfl

theorem withB_delOne (v : Ver) : delOne (withB b s) v = withB b (delOne s v) := by
  unfold delOne
  simp only [withB_hasContent]
  split <;> rfl

end withB

/-- One constructor per enabled branch of `step` (`step_trans`): the proofs about what a step does
    analyse these cases instead of unfolding `step`.  A disabled branch has no constructor: whether a
    thread can move (`progress`) is read off `step` itself. -/
inductive Trans (σ : St) (i : Nat) : Pc → St → Prop
  | ret o : Trans σ i (.ret o) (σ.goto i .idle)
  | setNoTx t k c : (σ.sys.regGet t).isNone = true →
      Trans σ i (.setGuard t k c) (σ.linearize i σ.sys (.set t k c) (σ.sys.set t k c).2 (.ret (.err .txNotFound)))
  | setEmpty t k c : ¬ (σ.sys.regGet t).isNone = true → k = "" →
      Trans σ i (.setGuard t k c) (σ.linearize i σ.sys (.set t k c) (σ.sys.set t k c).2 (.ret (.err .emptyKey)))
  | setGuard t k c : ¬ (σ.sys.regGet t).isNone = true → ¬ k = "" → Trans σ i (.setGuard t k c) (σ.goto i (.setContent t k c))
  | setContent t k c : Trans σ i (.setContent t k c) (σ.goto i (.setStore t k c))
  | setStore t k c :
      Trans σ i (.setStore t k c) (σ.linearize i (storeSet σ.sys t k c) (.set t k c) (σ.sys.set t k c).2 (.ret .ok))
  | delNoTx t k : (σ.sys.regGet t).isNone = true →
      Trans σ i (.delGuard t k) (σ.linearize i σ.sys (.del t k) (σ.sys.del t k).2 (.ret (.err .txNotFound)))
  | delGuard t k : ¬ (σ.sys.regGet t).isNone = true → Trans σ i (.delGuard t k) (σ.goto i (.delStore t k))
  | delStore t k : Trans σ i (.delStore t k) (σ.linearize i (storeDel σ.sys t k) (.del t k) (σ.sys.del t k).2 (.ret .ok))
  | getNoTx t k : σ.sys.regGet t = none →
      Trans σ i (.getReg t k) (σ.witness i (.ret (.err .txNotFound)) (σ.sys.get t k))
  | getReg t k tx : σ.sys.regGet t = some tx → Trans σ i (.getReg t k) (σ.goto i (.getOwn tx k none))
  | getOwn tx k prev : Trans σ i (.getOwn tx k prev) (σ.goto i (.getBase tx k (ownRead σ.sys tx k) prev))
  | getNone tx k own prev : newer own (baseRead σ.sys tx k) = none →
      Trans σ i (.getBase tx k own prev) (σ.witness i (.ret (.err .notFound)) (σ.sys.get tx.id k))
  | getAgain tx k own prev v : newer own (baseRead σ.sys tx k) = some v → prev = some v.cid →
      Trans σ i (.getBase tx k own prev) (σ.witness i (.ret (.err .notFound)) (σ.sys.get tx.id k))
  | getBase tx k own prev v : newer own (baseRead σ.sys tx k) = some v → ¬ prev = some v.cid →
      Trans σ i (.getBase tx k own prev) (σ.witness i (.getContent tx k v) (σ.sys.get tx.id k))
  | getHit tx k v c : σ.sys.hasContent v.cid = some c → Trans σ i (.getContent tx k v) (σ.goto i (.ret (.val c)))
  | getMiss tx k v : σ.sys.hasContent v.cid = none →
      Trans σ i (.getContent tx k v) (σ.goto i (.getOwn tx k (some v.cid)))
  | keysNoTx t : σ.sys.regGet t = none →
      Trans σ i (.keysReg t) (σ.witness i (.ret (.err .txNotFound)) (σ.sys.getKeys t))
  | keysReg t tx : σ.sys.regGet t = some tx → Trans σ i (.keysReg t) (σ.goto i (.keysOwn tx))
  | keysOwn tx : Trans σ i (.keysOwn tx)
      (σ.goto i (.keysBase tx (σ.sys.dom.filterMap (fun k => (ownRead σ.sys tx k).map (fun v => (k, v))))))
  | keysBase tx own : Trans σ i (.keysBase tx own)
      (σ.witness i (.keysContent (σ.sys.dom.filterMap (fun k => newer (lookupKV own k) (baseRead σ.sys tx k))) [])
        (σ.sys.getKeys tx.id))
  | keysDone acc : Trans σ i (.keysContent [] acc) (σ.goto i (.ret (.keys (sortKeys acc))))
  | keysNext v todo acc : Trans σ i (.keysContent (v :: todo) acc)
      (σ.goto i (.keysContent todo (if (σ.sys.hasContent v.cid).isSome then acc ++ [v.key] else acc)))
  | beginLock t lvl : ¬ σ.hzLock.isSome = true → Trans σ i (.beginLock t lvl)
      { σ.linearize i (σ.sys.begin t lvl).1 (.begin t lvl) (σ.sys.begin t lvl).2 (.beginUnlock (σ.sys.begin t lvl).2) with
        hzLock := some i }
  | beginUnlock o : Trans σ i (.beginUnlock o) { σ.goto i (.ret o) with hzLock := none }
  | commitDereg t : t ≠ mainTx ∧ (σ.sys.reg.find? (·.id = t)).isSome = true →
      Trans σ i (.commitDereg t) { σ.goto i (.commitRun t) with closing := t :: σ.closing }
  | commitNow t : ¬ (t ≠ mainTx ∧ (σ.sys.reg.find? (·.id = t)).isSome = true) → Trans σ i (.commitDereg t)
      (σ.linearize i (σ.sys.commit t).1 (.commit t) (σ.sys.commit t).2 (.ret (σ.sys.commit t).2))
  | commitRun t : Trans σ i (.commitRun t)
      { σ.linearize i (σ.sys.commit t).1 (.commit t) (σ.sys.commit t).2 (.ret (σ.sys.commit t).2) with
        closing := σ.closing.filter (· ≠ t) }
  | rollbackDereg t : t ≠ mainTx ∧ (σ.sys.reg.find? (·.id = t)).isSome = true →
      Trans σ i (.rollbackDereg t) { σ.goto i (.rollbackRun t) with closing := t :: σ.closing }
  | rollbackNow t : ¬ (t ≠ mainTx ∧ (σ.sys.reg.find? (·.id = t)).isSome = true) → Trans σ i (.rollbackDereg t)
      (σ.linearize i (σ.sys.rollback t).1 (.rollback t) (σ.sys.rollback t).2 (.ret (σ.sys.rollback t).2))
  | rollbackRun t : Trans σ i (.rollbackRun t)
      { σ.linearize i (σ.sys.rollback t).1 (.rollback t) (σ.sys.rollback t).2 (.ret (σ.sys.rollback t).2) with
        closing := σ.closing.filter (· ≠ t) }
  | gcHorizon : ¬ σ.hzLock.isSome = true → Trans σ i .gcHorizon
      { σ.linearize i (gcDrawX σ.sys σ.closing) .gc .ok (.gcCollect (gcHzX σ.sys σ.closing)) with
        lin := (σ.linearize i (gcDrawX σ.sys σ.closing) .gc .ok (.gcCollect (gcHzX σ.sys σ.closing))).lin
          ++ [(i, .tick (gcDrawX σ.sys σ.closing).counter, .ok)] }
  | gcCollect hz : Trans σ i (.gcCollect hz)
      { σ.goto i (.gcDelete (delsAt σ.sys hz)) with sys := collectAt σ.sys hz, busy := σ.busy ++ [(i, delsAt σ.sys hz)] }
  | gcDone : Trans σ i (.gcDelete []) { σ.goto i (.ret .ok) with busy := σ.busy.filter (·.1 ≠ i) }
  | gcDelete v todo : Trans σ i (.gcDelete (v :: todo)) { σ.goto i (.gcDelete todo) with sys := delOne σ.sys v }
  | workNone : σ.sys.pending = [] → Trans σ i .workTake (σ.linearize i σ.sys .drain .ok (.ret .ok))
  | workTake job rest : σ.sys.pending = job :: rest → Trans σ i .workTake
      { σ.goto i (.workDelete job) with sys := { σ.sys with pending := rest }, busy := σ.busy ++ [(i, job)] }
  | workDone : Trans σ i (.workDelete []) { σ.goto i .workTake with busy := σ.busy.filter (·.1 ≠ i) }
  | workDelete v todo : Trans σ i (.workDelete (v :: todo)) { σ.goto i (.workDelete todo) with sys := delOne σ.sys v }

-- Two abbreviations for a proof that unfolds `step` directly, one clause of it at a time (the proofs here
-- analyse `Trans` instead).
/-- close a goal about `σ'` once `hs : some … = some σ'` has no `if`/`match` left -/
macro "step_done" hs:ident " with " t:tactic : tactic =>
  `(tactic| first
    | (simp only [Option.some.injEq] at $hs:ident; subst $hs:ident; $t)
    | (cases $hs:ident; done))

/-- split the conditionals of one `step` clause (at most two levels) and close every branch with `t` -/
macro "step_cases" hs:ident " with " t:tactic : tactic =>
  `(tactic| first
    | step_done $hs with $t
    | (split at $hs:ident <;> first
        | step_done $hs with $t
        | (split at $hs:ident <;> step_done $hs with $t)))

theorem step_trans {σ σ' : St} {i : Nat} (hs : step σ i = some σ') : Trans σ i (σ.thr i).pc σ' := by
  revert hs
  -- one goal per branch of `step`, its program counter and conditions as hypotheses; a branch `none` is no
  -- step, a branch `some _` fixes `σ'`
  fun_cases step σ i <;> intro hs <;> cases hs <;> rw [‹(σ.thr i).pc = _›]
  -- the one constructor for the program counter that ends in that state …
  any_goals (constructor <;> first | assumption | rfl)
  -- … but two branches of `getBase` end in the same state: the second is left
  exact .getAgain _ _ _ _ _ ‹_› rfl

theorem invoke_some {σ σ' : St} {i : Nat} {op : Op} (hs : invoke σ i op = some σ') :
    (σ.thr i).pc = .idle ∧ ∃ pc owner', entry op = some pc ∧
      σ' = { σ.setThr i { pc := pc, op := some op, wit := none, invAt := σ.lin.length, witAt := σ.lin.length } with
             owner := owner' } ∧
      ((∃ t lvl, op = .begin t lvl ∧ t ≠ mainTx ∧ σ.owner t = none ∧
          owner' = fun t' => if t' = t then some i else σ.owner t') ∨
       (owner' = σ.owner ∧ allowed σ i (txOf op) = true ∧ ∀ t lvl, op ≠ .begin t lvl)) := by
  revert hs
  fun_cases invoke σ i op <;> intro hs
  -- the three branches `none`: not idle, no entry point, `Begin` of `mainTx` or of an id that has an owner
  iterate 3 cases hs
  · next hidle pc t lvl hfresh he _ =>
    cases hs
    refine ⟨Decidable.not_not.mp hidle, _, _, he, rfl, .inl ⟨t, lvl, rfl, fun e => hfresh (.inl e), ?_, rfl⟩⟩
    exact Option.not_isSome_iff_eq_none.mp fun e => hfresh (.inr e)
  · next hidle pc he _ ha hnb =>
    rw [if_pos ha] at hs
    cases hs
    exact ⟨Decidable.not_not.mp hidle, _, _, he, rfl, .inr ⟨rfl, ha, fun t lvl e => hnb t lvl e⟩⟩
  · next ha _ => rw [if_neg ha] at hs; cases hs

end FsDb.Conc
