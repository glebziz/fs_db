import FsDb.Model.Conc
import FsDb.Proofs.Refine
/-! Frame conditions: what one step of a goroutine that may use only transaction `t` (or the main
    transaction) can change in the shared state, as far as the other goroutines' local assertions
    are concerned (rely/guarantee for the small-step model `Model/Conc`). -/
namespace FsDb.Conc
open Sys Spec

/-- Clause by clause, what the assertions of the other goroutines (`PcInv`) rest on.  `nextCid`, `content`: a content id
    seen earlier stays old, and its record is as it was or gone (`PrevOk`, `.getContent`, `KeysOk`).  `reg`: the registry
    entries of the other transactions (`RegOk`, the guards).  `ownL`, `mainMono`: the two cases of `OwnOk`, a transaction's
    own store and the main one.  `counter`, `regNew`: a horizon computed earlier stays safe (`SafeHz.stable`). -/
structure Frame (s s' : Sys) (t : Nat) : Prop where
  nextCid : s.nextCid ≤ s'.nextCid
  counter : s.counter ≤ s'.counter
  content : ∀ cid, cid < s.nextCid → s'.hasContent cid = s.hasContent cid ∨ s'.hasContent cid = none
  reg : ∀ t', t' ≠ t → s'.regGet t' = s.regGet t'
  ownL : ∀ t' k, t' ≠ t → t' ≠ mainTx → s'.ownLatest t' k = s.ownLatest t' k
  mainMono : ∀ k m, latest (s.main k) = some m → ∃ m', latest (s'.main k) = some m' ∧ m.seq ≤ m'.seq
  regNew : ∀ r ∈ s'.reg, r ∈ s.reg ∨ s.counter < r.seq

theorem Frame.of_fields {s s' : Sys} (t : Nat) (h1 : s.counter ≤ s'.counter)
    (h2 : ∀ k, latest (s'.main k) = latest (s.main k)) (h3 : s'.nextCid = s.nextCid := by rfl)
    (h4 : s'.cfs = s.cfs := by rfl) (h5 : s'.reg = s.reg := by rfl) (h6 : s'.txs = s.txs := by rfl) : Frame s s' t :=
  ⟨Nat.le_of_eq h3.symm, h1, fun cid _ => .inl (hasContent_congr h4 cid), fun t' _ => regGet_congr h5 t',
    fun t' k _ hm => ownLatest_congr hm (congrFun h6 t') k, fun k m h => ⟨m, (h2 k).trans h, Nat.le_refl _⟩,
    fun _ hr => .inl (h5 ▸ hr)⟩

theorem Frame.refl (s : Sys) (t : Nat) : Frame s s t :=
  .of_fields t (Nat.le_refl _) fun _ => rfl

theorem Frame.content_imp {s s' : Sys} {t : Nat} (fr : Frame s s' t) (P : Option Nat → Prop) {cid : Nat}
    (hb : cid < s.nextCid) (h0 : P none) (h : P (s.hasContent cid)) : P (s'.hasContent cid) := by
  rcases fr.content cid hb with e | e <;> rw [e]
  · exact h
  · exact h0

theorem frame_begin (s : Sys) (t : Nat) (lvl : Level) : Frame s (s.begin t lvl).1 t := by
  refine begin_ind s t lvl (P := (Frame s · t)) (Frame.refl s t) fun _ _ => ⟨Nat.le_refl _, Nat.le_succ _,
    fun _ _ => .inl rfl, fun t' ht' => ?_, fun _ _ _ _ => rfl, fun _ m h => ⟨m, h, Nat.le_refl _⟩, fun r hr => ?_⟩
  · exact regGet_congr_find <| by
      rw [List.find?_append, List.find?_cons_of_neg (by simpa using Ne.symm ht'), List.find?_nil, Option.or_none]
  · exact (List.mem_append.mp hr).imp_right fun hr => by rw [List.mem_singleton.mp hr]; exact Nat.lt_succ_self _

theorem storeSet_eq (s : Sys) (t : Nat) (k : Key) (c : Nat) :
    storeSet s t k c = afterStore s [(s.nextCid, c)] t k (some c) := rfl

theorem storeDel_eq (s : Sys) (t : Nat) (k : Key) :
    storeDel s t k = afterStore s [] t k none :=
  (afterStore_nil s t k).symm

theorem latest_append_ext {s : Sys} (i : Inv s) (k : Key) (ext : List Ver) (hext : ∀ v ∈ ext, v.seq = s.counter + 1)
    (m : Ver) (h : latest (s.main k) = some m) :
    ∃ m', latest (s.main k ++ ext) = some m' ∧ m.seq ≤ m'.seq := by
  unfold Sys.latest at *
  rw [List.getLast?_append]
  cases he : ext.getLast? with
  | none => simp [h]
  | some e =>
    refine ⟨e, by simp, ?_⟩
    have := hext e (List.mem_of_getLast? he)
    have := i.seq_le (i.main_sub_all (List.mem_of_getLast? h))
    omega

theorem frame_afterStore {s : Sys} (i : Inv s) (extra : List (Nat × Nat)) (hx : ∀ p ∈ extra, p.1 = s.nextCid)
    (t : Nat) (k : Key) (val : Option Nat) : Frame s (afterStore s extra t k val) t := by
  have hl := after_listOf s extra t k val
  refine ⟨by rw [after_nextCid]; exact Nat.le_succ _, by rw [after_counter]; exact Nat.le_succ _, fun cid hc => .inl ?_,
    fun t' _ => regGet_congr (after_reg s ..) t',
    fun t' k' ht' _ => by rw [ownLatest_eq, ownLatest_eq, hl, if_neg fun e => ht' e.1], fun k' m h => ?_,
    fun r hr => .inl (after_reg s .. ▸ hr)⟩
  · exact hasContent_append_old (after_cfs s ..) fun p hp e => Nat.ne_of_lt hc (e.symm.trans (hx p hp))
  · -- only the list of `k` in `txStore[t]` grows, by a version with a fresh number
    rw [← listOf_main, hl]
    split
    · next e =>
      rw [← e.1, listOf_main]
      exact latest_append_ext i k _ (fun v hv => by rw [List.mem_singleton.mp hv]; rfl) m (e.2 ▸ h)
    · exact ⟨m, h, Nat.le_refl _⟩

theorem frame_storeSet {s : Sys} (i : Inv s) (t : Nat) (k : Key) (c : Nat) : Frame s (storeSet s t k c) t := by
  rw [storeSet_eq]; exact frame_afterStore i _ (by simp) t k _

theorem frame_storeDel {s : Sys} (i : Inv s) (t : Nat) (k : Key) : Frame s (storeDel s t k) t := by
  rw [storeDel_eq]; exact frame_afterStore i _ (by simp) t k _

/-- the shape of the state after `Commit` or `Rollback` of `t`, as far as the frame is concerned -/
structure CommitShape (s : Sys) (t : Nat) (s' : Sys) : Prop where
  nextCid : s'.nextCid = s.nextCid
  cfs : s'.cfs = s.cfs
  counter : s.counter ≤ s'.counter
  reg : (s'.reg = s.reg ∧ (t = mainTx ∨ s.reg.find? (·.id = t) = none)) ∨ s'.reg = s.reg.filter (·.id ≠ t)
  txs : ∀ t', t' ≠ t → s'.txs t' = s.txs t'
  main : ∀ k, ∃ ext, s'.main k = s.main k ++ ext ∧ ∀ v ∈ ext, v.seq = s.counter + 1

theorem CommitShape.pending {s s' : Sys} {t : Nat} (h : CommitShape s t s') (p : List (List Ver)) :
    CommitShape s t { s' with pending := p } := ⟨h.1, h.2, h.3, h.4, h.5, h.6⟩

section shapes
variable {s : Sys} {t : Nat}

theorem main_ext_nil (k : Key) : ∃ ext, s.main k = s.main k ++ ext ∧ ∀ v ∈ ext, v.seq = s.counter + 1 :=
  ⟨[], (List.append_nil _).symm, fun _ hv => absurd hv List.not_mem_nil⟩

theorem CommitShape.refl (hc : t = mainTx ∨ s.reg.find? (·.id = t) = none) : CommitShape s t s :=
  ⟨rfl, rfl, Nat.le_refl _, .inl ⟨rfl, hc⟩, fun _ _ => rfl, main_ext_nil⟩

/-- the transaction wrote nothing: it is only unregistered -/
theorem CommitShape.unregister : CommitShape s t (unregister s t) :=
  ⟨rfl, rfl, Nat.le_refl _, .inr rfl, fun _ _ => rfl, main_ext_nil⟩

theorem CommitShape.discard (removed job : List Ver) : CommitShape s t (discard s t removed job) :=
  ⟨rfl, rfl, Nat.le_refl _, .inr rfl, fun _ ht' => if_neg ht', main_ext_nil⟩

theorem CommitShape.publish (st : Store) (recs' : List Ver) : CommitShape s t (pubState s t st recs') :=
  ⟨rfl, rfl, Nat.le_succ _, .inr rfl, fun _ ht' => if_neg ht',
    fun k => ⟨_, rfl, fun v hv => by obtain ⟨u, _, rfl⟩ := mem_pubOf.mp hv; rfl⟩⟩

theorem commit_shape (i : Inv s) (t : Nat) : CommitShape s t (s.commit t).1 :=
  commit_ind i t .refl (fun _ => .unregister) (fun _ _ _ _ => .discard _ _) fun _ _ => .publish _ _

theorem rollback_shape (s : Sys) (t : Nat) : CommitShape s t (s.rollback t).1 :=
  rollback_ind s t .refl (fun _ => .unregister) fun _ _ => .discard _ _

end shapes

theorem frame_of_shape {s s' : Sys} (i : Inv s) {t : Nat} (h : CommitShape s t s') : Frame s s' t := by
  obtain ⟨h1, h2, h3, h4, h5, h6⟩ := h
  refine ⟨Nat.le_of_eq h1.symm, h3, fun cid _ => .inl (hasContent_congr h2 cid), fun t' ht' => ?_,
    fun t' k ht' hm => ownLatest_congr hm (h5 t' ht') k, fun k m h => ?_, fun r hr => .inl ?_⟩
  · rcases h4 with ⟨h4, _⟩ | h4
    · exact regGet_congr h4 t'
    · exact regGet_congr_find (h4 ▸ find?_filter_ne (·.id) s.reg ht')
  · obtain ⟨ext, he, hext⟩ := h6 k
    rw [he]; exact latest_append_ext i k ext hext m h
  · rcases h4 with ⟨h4, _⟩ | h4 <;> rw [h4] at hr
    · exact hr
    · exact mem_of_filter hr

theorem CommitShape.reg_ne {s s' : Sys} {t : Nat} (h : CommitShape s t s') (i : Inv s) :
    ∀ r ∈ s'.reg, r.id ≠ t := by
  intro r hr
  rcases h.reg with ⟨h4, hc⟩ | h4 <;> rw [h4] at hr
  · rcases hc with rfl | hc
    · exact i.regMain r hr
    · simpa using List.find?_eq_none.mp hc r hr
  · simpa using (List.mem_filter.mp hr).2

theorem frame_commit {s : Sys} (i : Inv s) (t : Nat) : Frame s (s.commit t).1 t := frame_of_shape i (commit_shape i t)

theorem frame_rollback {s : Sys} (i : Inv s) (t : Nat) : Frame s (s.rollback t).1 t := frame_of_shape i (rollback_shape s t)

theorem frame_gcDrawX (s : Sys) (cl : List Nat) (t : Nat) : Frame s (gcDrawX s cl) t := by
  unfold gcDrawX
  split
  · exact Frame.refl s t
  · exact .of_fields t (Nat.le_succ _) fun _ => rfl

theorem frame_gcDraw (s : Sys) (t : Nat) : Frame s (gcDraw s) t := gcDraw_eq s ▸ frame_gcDrawX s [] t

/-- the collector never takes the newest version of a key -/
theorem frame_collectAt (s : Sys) (hz t : Nat) : Frame s (collectAt s hz) t :=
  .of_fields t (Nat.le_refl _) fun k => collect_getLast? (s.main k) hz

theorem frame_delOne (s : Sys) (v : Ver) (t : Nat) : Frame s (delOne s v) t := by
  refine ⟨Nat.le_of_eq (delOne_nextCid s v).symm, Nat.le_of_eq (delOne_counter s v).symm, fun cid _ => ?_,
    fun t' _ => regGet_congr (delOne_reg s v) t',
    fun t' k _ hm => ownLatest_congr hm (congrFun (delOne_txs s v) t') k, fun k m h => ?_, fun r hr => ?_⟩
  · by_cases h : cid = v.cid
    · exact .inr (h ▸ delOne_gone s v)
    · exact .inl (delOne_hasContent s v h)
  · rw [delOne_main]; exact ⟨m, h, Nat.le_refl _⟩
  · rw [delOne_reg] at hr; exact .inl hr

end FsDb.Conc
