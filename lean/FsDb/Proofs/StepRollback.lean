import FsDb.Proofs.StepDiscard
/-! `Rollback` (`transaction.Rollback`, `core.DeleteTx`): its outcomes in the terms of `discard`, as an equation and as
    a rule of proof; the refinement step. -/
namespace FsDb
open Sys Spec

theorem isStoreOf_flatMap {c : Sys} (i : Inv c) {t : Nat} {st : Store} (hst : c.txs t = some st) :
    IsStoreOf st (c.dom.flatMap (fun k => st k)) := by
  intro v
  rw [List.mem_flatMap]
  exact ⟨fun ⟨k, _, hv⟩ => ⟨k, hv⟩,
    fun ⟨k, hv⟩ => ⟨k, i.mem_dom (i.tx_sub_all hst hv), hv⟩⟩

theorem rollback_fst (c : Sys) (t : Nat) :
    (c.rollback t).1 =
      if t = mainTx ∨ c.reg.find? (·.id = t) = none then c
      else match c.txs t with
        | none => unregister c t
        | some st => discard c t (c.dom.flatMap (fun k => st k)) (c.dom.flatMap (fun k => st k)) := by
  unfold Sys.rollback
  by_cases htm : t = mainTx
  · rw [if_pos htm, if_pos (.inl htm)]
  rw [if_neg htm]
  cases c.reg.find? (·.id = t) with
  | none => rw [if_pos (.inr rfl)]
  | some tx =>
    rw [if_neg (not_or.mpr ⟨htm, nofun⟩)]
    dsimp only
    cases c.txs t with
    | none => rfl
    | some st => dsimp only; exact submit_eq _ _

/-- The outcomes of `Rollback` as a rule of proof.  They are `Commit`'s (`commit_ind`) without the publishing one, and
    here the state says what is handed to the cleaner: the store as it is unlinked. -/
theorem rollback_ind (c : Sys) (t : Nat) {P : Sys → Prop}
    (same : t = mainTx ∨ c.reg.find? (·.id = t) = none → P c)
    (unregistered : c.txs t = none → P (unregister c t))
    (discarded : ∀ st, c.txs t = some st →
      P (discard c t (c.dom.flatMap (fun k => st k)) (c.dom.flatMap (fun k => st k)))) :
    P (c.rollback t).1 := by
  rw [rollback_fst]
  split
  · exact same ‹_›
  · split
    · exact unregistered ‹_›
    · exact discarded _ ‹_›

theorem rollback_snd (c : Sys) (t : Nat) : (c.rollback t).2 = .ok := by
  unfold Sys.rollback
  split
  · rfl
  split
  · rfl
  dsimp only
  split <;> rfl

theorem step_rollback {c : Sys} {s : State} {cl : List Nat} (h : Rx cl c s) (t : Nat) :
    Agree (Rx cl) (c.rollback t) (Spec.rollback s t) := by
  refine ⟨rollback_snd c t, rollback_ind c t (P := (Rx cl · (Spec.close s t))) (fun hno => ?_)
    (fun hst => unregister_R h hst) fun st hst => discard_R h hst (isStoreOf_flatMap h.inv hst) fun _ hv => hv⟩
  -- nothing to close on the specification side either
  rw [Spec.close_eq_self]
  · exact h
  · rcases hno with rfl | hf
    · exact Spec.find_eq_none.mpr fun x hx => h.inv.regMain _ (h.mem_reg_of_open hx)
    · simpa [hf] using h.find_eq t

end FsDb
