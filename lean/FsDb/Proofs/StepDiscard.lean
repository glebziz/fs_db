import FsDb.Proofs.Reads
/-! Discarding a transaction's store (rollback, failed commit, first half of a successful commit). -/
namespace FsDb
open Sys Spec

/-- `DeleteFilesAsync` as `Commit` and `Rollback` call it: an empty delete list is not handed over. -/
def Sys.submit (s : Sys) (job : List Ver) : Sys :=
  { s with pending := if job.isEmpty then s.pending else s.pending ++ [job] }

theorem submit_eq (s : Sys) (job : List Ver) :
    (if job.isEmpty then s else { s with pending := s.pending ++ [job] }) = s.submit job := by
  cases job <;> rfl

theorem mem_pending_submit {s : Sys} {job j : List Ver} :
    j ∈ (s.submit job).pending ↔ j ∈ s.pending ∨ (j = job ∧ job ≠ []) := by
  show j ∈ (if job.isEmpty then s.pending else s.pending ++ [job]) ↔ _
  cases job <;> simp

theorem exists_mem_pending_submit {s : Sys} {job : List Ver} {w : Ver} (hw : w ∈ job) : ∃ j ∈ (s.submit job).pending, w ∈ j :=
  ⟨job, mem_pending_submit.mpr (Or.inr ⟨rfl, List.ne_nil_of_mem hw⟩), hw⟩

/-- Transaction `t` ends and its store goes: `removed` is unlinked from the all-store, `job` is handed to the cleaner.
    `removed` is always the whole store (`IsStoreOf`).  `job` is the whole store too after a rollback or a conflict; a
    `Commit` that publishes the last version of every key hands over only the superseded ones (`pubState`), so
    `job ⊆ removed` is all that `discard_inv` can ask. -/
def discard (c : Sys) (t : Nat) (removed job : List Ver) : Sys :=
  ({ c with reg := c.reg.filter (·.id ≠ t),
            txs := fun t' => if t' = t then none else c.txs t',
            all := removeLinks c.all removed } : Sys).submit job

/-- transaction `t` leaves the registry: all that happens at the end of one that wrote nothing -/
def unregister (c : Sys) (t : Nat) : Sys := { c with reg := c.reg.filter (·.id ≠ t) }

def IsStoreOf (st : Store) (removed : List Ver) : Prop := ∀ v, v ∈ removed ↔ ∃ k, v ∈ st k

theorem discard_live {c : Sys} (i : Inv c) {t : Nat} {st : Store} (hst : c.txs t = some st)
    {removed : List Ver} (hr : IsStoreOf st removed) (k : Key) (u : Ver) :
    u ∈ removeLinks c.all removed k ↔
      u ∈ c.main k ∨ ∃ t' st', (if t' = t then none else c.txs t') = some st' ∧ u ∈ st' k := by
  rw [mem_removeLinks]
  -- a removed version with `u`'s content id is `u` itself, so `u` carries the tag `t`
  have tag : u ∈ c.all k → ∀ v ∈ removed, v.cid = u.cid → u.tx = t := by
    intro hu v hv he
    obtain ⟨k', hvk⟩ := (hr v).mp hv
    exact i.cidUnique k' k v u (i.tx_sub_all hst hvk) hu he ▸ i.tagTx t st hst k' v hvk
  constructor
  · rintro ⟨hu, hne⟩
    refine ((i.allMem k u).mp hu).imp_right fun ⟨t', st', hst', hu'⟩ => ?_
    refine ⟨t', st', Option.ite_none_left_eq_some.mpr ⟨?_, hst'⟩, hu'⟩
    rintro rfl
    cases hst.symm.trans hst'
    exact hne u ((hr u).mpr ⟨k, hu'⟩) rfl
  · rintro (hm | ⟨t', st', hst', hu'⟩)
    · have hu := i.main_sub_all hm
      exact ⟨hu, fun v hv he => (i.txsReg t st hst).1 ((tag hu v hv he).symm.trans (i.tagMain k u hm))⟩
    · obtain ⟨htt, hst'⟩ := Option.ite_none_left_eq_some.mp hst'
      have hu := i.tx_sub_all hst' hu'
      exact ⟨hu, fun v hv he => htt ((i.tagTx t' st' hst' k u hu').symm.trans (tag hu v hv he))⟩

theorem discard_sub {c : Sys} {t : Nat} {removed job : List Ver} {k : Key} {u : Ver}
    (hu : u ∈ (discard c t removed job).all k) : u ∈ c.all k :=
  (mem_removeLinks.mp hu).1

theorem reg_filter_keeps {c : Sys} (i : Inv c) {t t' : Nat} {st : Store} (h : c.txs t' = some st) (htt : t' ≠ t) :
    ∃ r ∈ c.reg.filter (·.id ≠ t), r.id = t' :=
  have ⟨_, r, hr, hid⟩ := i.txsReg t' st h
  ⟨r, List.mem_filter.mpr ⟨hr, by simp [hid, htt]⟩, hid⟩

theorem discard_inv {c : Sys} (i : Inv c) {t : Nat} {st : Store} (hst : c.txs t = some st)
    {removed job : List Ver} (hr : IsStoreOf st removed) (hj : ∀ v ∈ job, v ∈ removed) :
    Inv (discard c t removed job) := by
  refine i.shrink (fun _ => .refl _) (fun _ _ h => (Option.ite_none_left_eq_some.mp h).2)
    (fun _ => List.filter_sublist) (discard_live i hst hr) List.filter_sublist
    (fun t' st' h => have ⟨htt, h⟩ := Option.ite_none_left_eq_some.mp h; reg_filter_keeps i h htt)
    fun jb hjb => (mem_pending_submit.mp hjb).imp_right ?_
  rintro ⟨rfl, _⟩ v hv
  obtain ⟨k, hk⟩ := (hr v).mp (hj v hv)
  exact ⟨fun k w hw e => (mem_removeLinks.mp hw).2 v (hj v hv) e.symm, i.cid_lt (i.tx_sub_all hst hk)⟩

theorem unregister_inv {c : Sys} (i : Inv c) (t : Nat) (hst : c.txs t = none) :
    Inv (unregister c t) :=
  i.shrink (fun _ => .refl _) (fun _ _ h => h) (fun _ => .refl _) i.allMem List.filter_sublist
    (fun _ _ h => reg_filter_keeps i h fun e => by simp [e, hst] at h) (fun _ h => Or.inl h)

theorem close_R_of_inv {c : Sys} {s : State} {cl : List Nat} (h : Rx cl c s) (t : Nat) {c' : Sys} (i' : Inv c')
    (htxs : ∀ t', t' ≠ t → c'.txs t' = c.txs t')
    (hcounter : c'.counter = c.counter := by rfl) (hdom : c'.dom = c.dom := by rfl) (hmain : c'.main = c.main := by rfl)
    (hreg : c'.reg = c.reg.filter (·.id ≠ t) := by rfl) :
    Rx cl c' (Spec.close s t) := by
  refine ⟨i', h.clock.trans hcounter.symm, h.dom.trans hdom.symm, ?_, fun x hx k => ?_,
    fun k => ?_, fun k hne => hdom ▸ h.histDom k hne⟩
  · have := congrArg (List.filter (fun p => p.1 ≠ t)) h.reg
    rw [List.filter_map, List.filter_map] at this
    exact hreg ▸ this
  · have hx := List.mem_filter.mp hx
    exact h.own_of_txs hx.1 k (htxs x.id (by simpa using hx.2))
  · rw [hmain, hreg]
    exact (h.histRel k).imp fun _ _ ho r hr => ho r (mem_of_filter hr)

theorem discard_R {c : Sys} {s : State} {cl : List Nat} (h : Rx cl c s) {t : Nat} {st : Store} (hst : c.txs t = some st)
    {removed job : List Ver} (hr : IsStoreOf st removed) (hj : ∀ v ∈ job, v ∈ removed) :
    Rx cl (discard c t removed job) (Spec.close s t) :=
  close_R_of_inv h t (discard_inv h.inv hst hr hj) fun _ ht' => if_neg ht'

theorem unregister_R {c : Sys} {s : State} {cl : List Nat} (h : Rx cl c s) {t : Nat} (hst : c.txs t = none) :
    Rx cl (unregister c t) (Spec.close s t) :=
  close_R_of_inv h t (unregister_inv h.inv t hst) fun _ _ => rfl

end FsDb
