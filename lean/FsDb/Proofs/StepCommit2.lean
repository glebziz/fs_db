import FsDb.Proofs.StepCommit
/-! `Commit`: its outcomes in the terms of `discard` and `pubState`; the refinement step. -/
namespace FsDb
open Sys Spec

theorem Rx.written_eq {c : Sys} {s : State} {cl : List Nat} (h : Rx cl c s) {x : STx} (hx : x ∈ s.open_) {st : Store}
    (hst : c.txs x.id = some st) :
    writtenS s.dom x.own = cWritten c st := by
  show s.dom.filter _ = c.dom.filter _
  rw [h.dom]
  apply List.filter_congr
  intro k _
  have hne : x.id ≠ mainTx := h.inv.regMain _ (h.mem_reg_of_open hx)
  rw [h.own x hx k, ownLatest_tx hne, hst]
  simp only
  cases hl : Sys.latest (st k) with
  | none => simp [latest_none hl]
  | some v => simp [List.ne_nil_of_mem (latest_mem hl)]

theorem Rx.conflict_eq {c : Sys} {s : State} {cl : List Nat} (h : Rx cl c s) {x : STx} (hx : x ∈ s.open_) {st : Store}
    (hst : c.txs x.id = some st) :
    conflictS (Spec.close s x.id) x = Sys.conflictOf ⟨x.id, x.level, x.beginStamp⟩ c.dom c.main st := by
  unfold conflictS Sys.conflictOf
  rw [show (Spec.close s x.id).dom = s.dom from rfl, h.written_eq hx hst]
  congr 2
  funext k
  have : committed (Spec.close s x.id) k = committed s k := rfl
  rw [this, h.committed_eq k]
  cases Sys.latest (c.main k) <;> simp [absV]

theorem commit_not_found {c : Sys} {t : Nat} (h : t = mainTx ∨ c.reg.find? (·.id = t) = none) :
    c.commit t = (c, .err .txNotFound) := by
  unfold Sys.commit
  rcases h with h | h
  · rw [if_pos h]
  · rw [h]; exact ite_self _

theorem commit_found {c : Sys} (i : Inv c) {t : Nat} {tx : TxRec} (htm : t ≠ mainTx)
    (hf : c.reg.find? (·.id = t) = some tx) :
    c.commit t = match c.txs t with
      | none => (unregister c t, .ok)
      | some st =>
        if Sys.conflictOf tx c.dom c.main st then
          (discard c t (cLasts c st ++ cOlds c st) (cOlds c st ++ cLasts c st), .err .txSerialization)
        else if (cLasts c st).isEmpty then (discard c t (cLasts c st ++ cOlds c st) (cOlds c st), .ok)
        else (pubState c t st (c.recs.map (pubRec ((cLasts c st).map (Sys.retag (c.counter + 1))))), .ok) := by
  obtain rfl : tx.id = t := by simpa using List.find?_some hf
  simp only [Sys.commit, if_neg htm, hf, submit_eq]
  -- `submit_eq` has put the hand-over in the form `Sys.submit`; `r` is what `UpdateTx` returns: each branch of it is
  -- `discard` unfolded, the same record update on both sides, hence `rfl`
  generalize hr : Sys.updateTx _ tx = r
  unfold Sys.updateTx at hr
  revert hr
  cases hst : c.txs tx.id with
  | none => rintro rfl; rfl
  | some st =>
    dsimp only
    cases hc : Sys.conflictOf tx c.dom c.main st with
    | true => rintro rfl; rfl
    | false =>
      cases he : (cLasts c st).isEmpty with
      | true => rintro rfl; rfl
      | false =>
        -- `pubState` says per key what `UpdateTx` says by filtering the list of published versions
        simp only [Bool.false_eq_true, ↓reduceIte, pub_filter_key i hst]
        rintro rfl; rfl

/-- The outcomes of `Commit` as a rule of proof.  `discarded` stands for two of them, a conflict and a commit
    with nothing to publish: in both the whole store is handed to the cleaner, which is all the rule tells about `job`.
    `step_commit` reads `commit_found` instead: it follows `Spec.commit_open` branch by branch, and `discard_R` wants
    `job` inside the store, not around it. -/
theorem commit_ind {c : Sys} (i : Inv c) (t : Nat) {P : Sys → Prop}
    (same : t = mainTx ∨ c.reg.find? (·.id = t) = none → P c)
    (unregistered : c.txs t = none → P (unregister c t))
    (discarded : ∀ st job, c.txs t = some st → (∀ w ∈ cLasts c st ++ cOlds c st, w ∈ job) →
      P (discard c t (cLasts c st ++ cOlds c st) job))
    (published : ∀ st, c.txs t = some st →
      P (pubState c t st (c.recs.map (pubRec ((cLasts c st).map (Sys.retag (c.counter + 1))))))) :
    P (c.commit t).1 := by
  by_cases hreg : t = mainTx ∨ c.reg.find? (·.id = t) = none
  · rw [commit_not_found hreg]; exact same hreg
  obtain ⟨htm, hf⟩ := not_or.mp hreg
  obtain ⟨tx, hf⟩ := Option.ne_none_iff_exists'.mp hf
  rw [commit_found i htm hf]
  cases hst : c.txs t with
  | none => exact unregistered hst
  | some st =>
    dsimp only
    by_cases hc : Sys.conflictOf tx c.dom c.main st = true
    · rw [if_pos hc]
      exact discarded st _ hst fun w hw => List.mem_append.mpr (List.mem_append.mp hw).symm
    rw [if_neg hc]
    by_cases hl : (cLasts c st).isEmpty = true
    · rw [if_pos hl]
      exact discarded st _ hst fun w hw => by rwa [List.isEmpty_iff.mp hl, List.nil_append] at hw
    · rw [if_neg hl]
      exact published st hst

theorem publish_R {c : Sys} {s : State} {cl : List Nat} (h : Rx cl c s) {x : STx} (hx : x ∈ s.open_) {st : Store}
    (hst : c.txs x.id = some st) (recs' : List Ver) :
    Rx cl (pubState c x.id st recs') (publishS (Spec.close s x.id) x) := by
  have i := h.inv
  have hR2 : Rx cl (discard c x.id (cLasts c st ++ cOlds c st) (cOlds c st)) (Spec.close s x.id) :=
    discard_R h hst (isStoreOf_commit i hst) cOlds_subset
  have hw : writtenS (Spec.close s x.id).dom x.own = cWritten c st := h.written_eq hx hst
  have hown : ∀ k, x.own k = (Sys.latest (st k)).map absV := fun k => by
    rw [h.own x hx k, ownLatest_tx (i.regMain _ (h.mem_reg_of_open hx)), hst]
  refine ⟨publish_inv i hst recs', congrArg (· + 1) h.clock, h.dom, hR2.reg, fun y hy k => ?_, fun k => ?_,
    fun k hne => ?_⟩
  · exact hR2.own_of_txs hy k rfl
  · -- the history of `k` grows by the published version exactly when the transaction wrote `k`
    have hk := (hR2.histRel k : HistRel (s.hist k) (c.main k) _)
    show HistRel _ (c.main k ++ pubOf c st k) _
    rw [Spec.publish_hist, hw, hown k]
    unfold pubOf
    cases hl : Sys.latest (st k) with
    | none => simp only [Option.map_none, List.append_nil]; exact hk
    | some v =>
      simp only [Option.map_some]
      rw [if_pos ((mem_cWritten i hst k).mpr (List.ne_nil_of_mem (latest_mem hl))),
        show (Spec.close s x.id).clock = c.counter from h.clock]
      exact hk.push (Sys.retag (c.counter + 1) v) fun u hu => i.seq_lt_next (i.main_sub_all hu)
  · show k ∈ c.dom
    rw [Spec.publish_hist, hw] at hne
    by_cases hkw : k ∈ cWritten c st
    · exact (List.mem_filter.mp hkw).1
    · exact hR2.histDom k (by cases ho : x.own k <;> simpa [ho, hkw] using hne)

theorem step_commit {c : Sys} {s : State} {cl : List Nat} (h : Rx cl c s) (t : Nat) :
    Agree (Rx cl) (c.commit t) (Spec.commit s t) := by
  have i := h.inv
  by_cases htm : t = mainTx
  · rw [commit_not_found (Or.inl htm), Spec.commit_not_open (Or.inl htm)]
    exact ⟨rfl, h⟩
  rcases h.find_cases t with ⟨hf2, hf⟩ | ⟨y, hf2, hf⟩
  · rw [commit_not_found (Or.inr hf), Spec.commit_not_open (Or.inr hf2)]
    exact ⟨rfl, h⟩
  · obtain ⟨hy, rfl⟩ := Spec.find_mem hf2
    rw [commit_found i htm hf, Spec.commit_open htm hf2]
    cases hst : c.txs y.id with
    | none =>
      -- nothing written: no conflict, nothing to publish
      have hw : writtenS s.dom y.own = [] :=
        List.filter_eq_nil_iff.mpr fun k _ => by rw [h.own y hy k, ownLatest_tx htm, hst]; exact Bool.false_ne_true
      have hc : conflictS (Spec.close s y.id) y = false := by
        unfold conflictS; rw [show (Spec.close s y.id).dom = s.dom from rfl, hw]; exact Bool.and_false _
      simp only [hc, hw, List.isEmpty_nil, if_true, Bool.false_eq_true, if_false]
      exact ⟨rfl, unregister_R h hst⟩
    | some st =>
      simp only [h.conflict_eq hy hst, h.written_eq hy hst]
      have hemp : (cWritten c st).isEmpty = (cLasts c st).isEmpty := by
        rw [Bool.eq_iff_iff, List.isEmpty_iff, List.isEmpty_iff, cLasts_nil_iff i hst]
      rw [hemp]
      cases Sys.conflictOf ⟨y.id, y.level, y.beginStamp⟩ c.dom c.main st with
      | true =>
        exact ⟨rfl, discard_R h hst (isStoreOf_commit i hst) fun v hv => List.mem_append.mpr (List.mem_append.mp hv).symm⟩
      | false =>
        cases (cLasts c st).isEmpty with
        | true => exact ⟨rfl, discard_R h hst (isStoreOf_commit i hst) cOlds_subset⟩
        | false => exact ⟨rfl, publish_R h hy hst _⟩

end FsDb
