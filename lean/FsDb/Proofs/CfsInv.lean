import FsDb.Proofs.Reopen
/-!
  The content-record invariant (C14): every fileContent record (and with it every content file)
  belongs to a version that is still linked or to a pending deletion job, no content id has two
  records, every content record has its version record.  From it: at quiescence the storage holds
  exactly the committed values.
-/
namespace FsDb
open Sys Spec

structure CfsInv (c : Sys) : Prop where
  nodup : (c.cfs.map (·.1)).Nodup
  owned : ∀ p ∈ c.cfs, (∃ k, ∃ v ∈ c.all k, v.cid = p.1) ∨ (∃ job ∈ c.pending, ∃ v ∈ job, v.cid = p.1)
  hasRec : ∀ p ∈ c.cfs, ∃ r ∈ c.recs, r.cid = p.1

theorem CfsInv.init : CfsInv ({} : Sys) :=
  ⟨List.nodup_nil, (fun _ h => nomatch h), (fun _ h => nomatch h)⟩

theorem CfsInv.congr {a b : Sys} (h : CfsInv a) (h1 : b.cfs = a.cfs := by rfl) (h2 : b.all = a.all := by rfl)
    (h3 : b.pending = a.pending := by rfl) (h4 : b.recs = a.recs := by rfl) : CfsInv b :=
  ⟨h1 ▸ h.nodup, h1 ▸ h2 ▸ h3 ▸ h.owned, h1 ▸ h4 ▸ h.hasRec⟩

theorem mem_filter_all_ne {l : List (Nat × Nat)} {vs : List Ver} {p : Nat × Nat} :
    p ∈ l.filter (fun p => vs.all (fun v => p.1 ≠ v.cid)) ↔ p ∈ l ∧ ∀ v ∈ vs, p.1 ≠ v.cid := by
  simp only [List.mem_filter, List.all_eq_true, decide_eq_true_eq]

theorem CfsInv.delete {a b : Sys} (h : CfsInv a) (vs : List Ver)
    (hcfs : b.cfs = a.cfs.filter (fun p => vs.all (fun v => p.1 ≠ v.cid)))
    (hrecs : ∀ r ∈ a.recs, (∀ v ∈ vs, r.cid ≠ v.cid) → r ∈ b.recs) :
    (b.cfs.map (·.1)).Nodup ∧ ∀ p ∈ b.cfs, ∃ r ∈ b.recs, r.cid = p.1 := by
  rw [hcfs]
  refine ⟨(List.filter_sublist.map _).nodup h.nodup, fun p hp => ?_⟩
  obtain ⟨hp, hne⟩ := mem_filter_all_ne.mp hp
  obtain ⟨r, hr, hrc⟩ := h.hasRec p hp
  exact ⟨r, hrecs r hr (hrc ▸ hne), hrc⟩

theorem CfsInv.deleteRun {c : Sys} (h : CfsInv c) (vs : List Ver) : CfsInv (c.deleteFiles vs) := by
  obtain ⟨hn, hr⟩ := h.delete vs (deleteFiles_cfs c vs) (deleteFiles_recs_keep' c vs)
  exact ⟨hn, fun p hp => deleteFiles_all c vs ▸ deleteFiles_pending c vs ▸ h.owned p (mem_filter_all_ne.mp (deleteFiles_cfs c vs ▸ hp)).1, hr⟩

theorem CfsInv.deleteFiles {c : Sys} (h : CfsInv c) (vs : List Ver) :
    (c.cfs.map (·.1)).Nodup ∧
    ((c.deleteFiles vs).cfs.map (·.1)).Nodup ∧
    (∀ p ∈ (c.deleteFiles vs).cfs, ∃ r ∈ (c.deleteFiles vs).recs, r.cid = p.1) :=
  ⟨h.nodup, (h.deleteRun vs).nodup, (h.deleteRun vs).hasRec⟩

/-! ### ownership moves, it is never dropped -/

theorem CfsInv.transfer {a b : Sys} (h : CfsInv a) (hcfs : b.cfs = a.cfs)
    (hown : ∀ k, ∀ v ∈ a.all k, (∃ k', ∃ w ∈ b.all k', w.cid = v.cid) ∨ (∃ job ∈ b.pending, ∃ w ∈ job, w.cid = v.cid))
    (hpend : ∀ job ∈ a.pending, job ∈ b.pending)
    (hrec : ∀ r ∈ a.recs, ∃ r' ∈ b.recs, r'.cid = r.cid) : CfsInv b := by
  refine ⟨hcfs ▸ h.nodup, fun p hp => ?_, fun p hp => ?_⟩
  · rcases h.owned p (hcfs ▸ hp) with ⟨k, v, hv, hc⟩ | ⟨job, hj, v, hv, hc⟩
    · rcases hown k v hv with ⟨k', w, hw, hwc⟩ | ⟨job, hj, w, hw, hwc⟩
      · exact Or.inl ⟨k', w, hw, hwc.trans hc⟩
      · exact Or.inr ⟨job, hj, w, hw, hwc.trans hc⟩
    · exact Or.inr ⟨job, hpend job hj, v, hv, hc⟩
  · obtain ⟨r, hr, hrc⟩ := h.hasRec p (hcfs ▸ hp)
    obtain ⟨r', hr', hrc'⟩ := hrec r hr
    exact ⟨r', hr', hrc'.trans hrc⟩

theorem CfsInv.relink {c b : Sys} (h : CfsInv c) {vs job : List Ver}
    (hkeep : ∀ k, ∀ v ∈ removeLinks c.all vs k, v ∈ b.all k)
    (hmoved : ∀ w ∈ vs, w ∈ job ∨ ∃ k', ∃ w' ∈ b.all k', w'.cid = w.cid)
    (hrec : ∀ r ∈ c.recs, ∃ r' ∈ b.recs, r'.cid = r.cid)
    (hcfs : b.cfs = c.cfs := by rfl) (hpend : b.pending = (c.submit job).pending := by rfl) : CfsInv b := by
  refine h.transfer hcfs (fun k v hv => ?_) (fun j hj => hpend ▸ mem_pending_submit.mpr (Or.inl hj)) hrec
  rcases removeLinks_cases vs hv with hl | ⟨w, hw, hc⟩
  · exact Or.inl ⟨k, v, hkeep k v hl, rfl⟩
  · rcases hmoved w hw with hj | ⟨k', w', hw', hc'⟩
    · obtain ⟨j, hj, hwj⟩ := exists_mem_pending_submit (s := c) hj
      exact Or.inr ⟨j, hpend ▸ hj, w, hwj, hc⟩
    · exact Or.inl ⟨k', w', hw', hc'.trans hc⟩

theorem CfsInv.begin {c : Sys} (h : CfsInv c) (t : Nat) (lvl : Level) : CfsInv (c.begin t lvl).1 :=
  begin_ind c t lvl h fun _ _ => h.congr

theorem CfsInv.store {c : Sys} (i : Inv c) (h : CfsInv c) (extra : List (Nat × Nat)) (t : Nat) (k : Key) (val : Option Nat)
    (hx : ExtraOk c val extra) : CfsInv (afterStore c extra t k val) := by
  have hall : ∀ {k' u}, u ∈ (afterStore c extra t k val).all k' ↔ u ∈ c.all k' ∨ (k' = k ∧ u = newVer c t k val) :=
    after_all c extra t k val ▸ mem_upd_append
  obtain ⟨hnd, hfresh⟩ : (extra.map (·.1)).Nodup ∧ ∀ p ∈ extra, p.1 = c.nextCid := by
    rcases hx with ⟨_, rfl⟩ | ⟨n, _, rfl⟩ <;> simp
  refine ⟨?_, ?_, ?_⟩
  · rw [after_cfs, List.map_append, List.nodup_append]
    refine ⟨h.nodup, hnd, fun a ha b hb e => ?_⟩
    obtain ⟨p, hp, rfl⟩ := List.mem_map.mp ha
    obtain ⟨q, hq, rfl⟩ := List.mem_map.mp hb
    exact Nat.lt_irrefl _ (hfresh q hq ▸ e ▸ i.cfsBound p hp)
  · rw [after_cfs, after_pending]
    exact List.forall_mem_append.mpr
      ⟨fun p hp => (h.owned p hp).imp (fun ⟨k', v, hv, hc⟩ => ⟨k', v, hall.mpr (Or.inl hv), hc⟩) id,
        fun p hp => Or.inl ⟨k, _, hall.mpr (Or.inr ⟨rfl, rfl⟩), (hfresh p hp).symm⟩⟩
  · rw [after_cfs, after_recs]
    exact List.forall_mem_append.mpr
      ⟨fun p hp => (h.hasRec p hp).imp fun r => And.imp_left (List.mem_append_left _),
        fun p hp => ⟨_, List.mem_append_right _ (List.mem_singleton_self _), (hfresh p hp).symm⟩⟩

theorem CfsInv.set {c : Sys} (i : Inv c) (h : CfsInv c) (t : Nat) (k : Key) (n : Nat) : CfsInv (c.set t k n).1 := by
  rw [set_eq]
  split
  · exact h
  split
  · exact h
  · exact h.store i _ t k _ (Or.inr ⟨n, rfl, rfl⟩)

theorem CfsInv.del {c : Sys} (i : Inv c) (h : CfsInv c) (t : Nat) (k : Key) : CfsInv (c.del t k).1 := by
  rw [del_eq]
  split
  · exact h
  · exact h.store i _ t k _ (Or.inl ⟨rfl, rfl⟩)

/-- a discarded store: what is unlinked is in the job -/
theorem CfsInv.discard {c : Sys} (h : CfsInv c) (t : Nat) {removed job : List Ver} (hjob : ∀ w ∈ removed, w ∈ job) :
    CfsInv (discard c t removed job) :=
  h.relink (fun _ _ hv => hv) (fun w hw => Or.inl (hjob w hw)) fun r hr => ⟨r, hr, rfl⟩

theorem CfsInv.commit {c : Sys} (i : Inv c) (h : CfsInv c) (t : Nat) : CfsInv (c.commit t).1 := by
  refine commit_ind i t (fun _ => h) (fun _ => h.congr) (fun _ _ _ hjob => h.discard t hjob) fun st _ => ?_
  -- the published versions are linked again, under their keys and content ids
  refine h.relink
    (fun _ _ hv => List.mem_append_left _ hv) (fun w hw => ?_) (fun r hr => ⟨_, List.mem_map_of_mem hr, pubRec_cid _ r⟩)
  rcases List.mem_append.mp hw with hw | hw
  · obtain ⟨k, _, hk⟩ := mem_cLasts.mp hw
    exact Or.inr ⟨k, Sys.retag (c.counter + 1) w, List.mem_append_right _ (mem_pubOf.mpr ⟨w, hk, rfl⟩), rfl⟩
  · exact Or.inl hw

theorem CfsInv.rollback {c : Sys} (h : CfsInv c) (t : Nat) : CfsInv (c.rollback t).1 :=
  rollback_ind c t (fun _ => h) (fun _ => h.congr) fun _ _ => h.discard t fun _ hw => hw

theorem CfsInv.gc {c : Sys} (h : CfsInv c) : CfsInv (c.gc).1 := by
  rw [gc_eq]
  have hcfs := deleteFiles_cfs (gcMid c) (gcDels c)
  obtain ⟨hn, hr⟩ := h.delete (gcDels c) hcfs (deleteFiles_recs_keep' (gcMid c) (gcDels c))
  refine ⟨hn, fun p hp => ?_, hr⟩
  obtain ⟨hp, hne⟩ := mem_filter_all_ne.mp (hcfs ▸ hp)
  rw [deleteFiles_all, deleteFiles_pending]
  -- the owner was not collected: its content record would be gone
  refine (h.owned p hp).imp (fun ⟨k, v, hv, hc⟩ => ⟨k, v, ?_, hc⟩) id
  exact (removeLinks_cases (gcDels c) hv).resolve_right fun ⟨w, hw, hwc⟩ => hne w hw (hc.symm.trans hwc.symm)

/-- a job may leave the queue once none of its versions has a content record -/
theorem CfsInv.pending {c : Sys} (h : CfsInv c) (p : List (List Ver))
    (hp : ∀ job ∈ c.pending, job ∈ p ∨ ∀ v ∈ job, ∀ q ∈ c.cfs, q.1 ≠ v.cid) : CfsInv { c with pending := p } :=
  ⟨h.nodup, fun q hq => (h.owned q hq).imp_right fun ⟨job, hj, v, hv, hc⟩ =>
    ⟨job, (hp job hj).resolve_right fun hn => hn v hv q hq hc.symm, v, hv, hc⟩, h.hasRec⟩

theorem CfsInv.drain {c : Sys} (h : CfsInv c) : CfsInv (c.drain).1 := by
  rw [drain_eq]
  refine (h.deleteRun c.pending.flatten).pending [] fun job hj => .inr fun v hv q hq => ?_
  rw [deleteFiles_pending] at hj
  exact (mem_filter_all_ne.mp (deleteFiles_cfs c _ ▸ hq)).2 v (List.mem_flatten.mpr ⟨job, hj, hv⟩)

theorem CfsInv.reopen {c : Sys} (i : Inv c) (h : CfsInv c) (f : Bool) : CfsInv (c.reopen f).1 := by
  rw [reopen_eq]
  refine ⟨h.nodup, fun p hp => ?_, h.hasRec⟩
  -- the version record of a content record is kept, or goes to the cleaner with it
  obtain ⟨r, hr, hrc⟩ := h.hasRec p hp
  by_cases hkept : ∃ k ∈ c.dom, ∃ w ∈ (winner c k).toList, w.cid = r.cid
  · obtain ⟨k, _, w, hw, hc⟩ := hkept
    exact Or.inl ⟨k, w, hw, hc.trans hrc⟩
  · obtain ⟨j, hj, hrj⟩ := exists_mem_pending_submit (mem_loadDels.mpr ⟨hr, fun k hk w hw hc => hkept ⟨k, hk, w, hw, hc⟩⟩)
    exact Or.inr ⟨j, hj, r, hrj, hrc⟩

theorem CfsInv.step {c : Sys} (i : Inv c) (h : CfsInv c) (op : Op) : CfsInv (c.step op).1 := by
  cases op with
  | begin t l => exact h.begin t l
  | set t k n => exact h.set i t k n
  | del t k => exact h.del i t k
  | get t k => exact h
  | keys t => exact h
  | commit t => exact h.commit i t
  | rollback t => exact h.rollback t
  | gc => exact h.gc
  | drain => exact h.drain
  | reopen f => exact h.reopen i f
  | tree => exact h

theorem CfsInv.run {c : Sys} {s : State} (h : R c s) (ri : RecInv c) (ci : CfsInv c) (ops : List Op) :
    (∀ op ∈ ops, op.total = true ∨ op = .tree) →
    R (c.run ops).1 (Spec.run s ops).1 ∧ RecInv (c.run ops).1 ∧ CfsInv (c.run ops).1 := by
  induction ops generalizing c s with
  | nil => intro _; exact ⟨h, ri, ci⟩
  | cons op ops ih =>
    intro hops
    have hci := ci.step h.inv op
    simp only [Sys.run, Spec.run]
    rcases hops op (by simp) with hop | rfl
    · have hs := Refine.step_all h ri op hop
      exact ih hs.2.1 hs.2.2 hci (fun o ho => hops o (List.mem_cons_of_mem _ ho))
    · exact ih h ri ci (fun o ho => hops o (List.mem_cons_of_mem _ ho))

/-- the state after `drain; gc` with no transaction open meets the hypotheses (`C14_quiescent_storage`) -/
theorem quiescent_tree {c : Sys} {s : State} (h : R c s) (ci : CfsInv c)
    (hreg : c.reg = []) (hpend : c.pending = []) (hone : ∀ k, c.main k = (Sys.latest (c.main k)).toList) :
    c.tree = (Spec.step s .tree).2 := by
  have i := h.inv
  -- what is linked: nothing open, so it is in main; one version per key, so it is the newest
  have htop : ∀ {k v}, v ∈ c.all k ↔ Sys.latest (c.main k) = some v := by
    refine ⟨fun hv => Option.mem_toList.mp (hone _ ▸ ?_), fun hl => i.main_sub_all (latest_mem hl)⟩
    refine ((i.allMem _ _).mp hv).resolve_right ?_
    rintro ⟨t, st, ht, _⟩
    obtain ⟨_, r, hr, _⟩ := i.txsReg t st ht
    rw [hreg] at hr; cases hr
  -- `cfs` is a permutation of the live contents of the keys in `dom`, as (content id, content number) pairs
  let live (k : Key) : Option (Nat × Nat) := (Sys.latest (c.main k)).bind fun v => v.val.map fun n => (v.cid, n)
  have hlive : ∀ {k p}, live k = some p ↔ ∃ v ∈ c.all k, v.val = some p.2 ∧ v.cid = p.1 := by
    intro k p
    simp only [live, Option.bind_eq_some_iff, Option.map_eq_some_iff]
    constructor
    · rintro ⟨v, hl, n, hv, rfl⟩; exact ⟨v, htop.mpr hl, hv, rfl⟩
    · rintro ⟨v, hl, hv, hc⟩; exact ⟨v, htop.mp hl, p.2, hv, Prod.ext hc rfl⟩
  have hmem : ∀ p, p ∈ c.cfs ↔ p ∈ c.dom.filterMap live := by
    intro p
    rw [mem_cfs ci.nodup, List.mem_filterMap]
    constructor
    · intro hp
      rcases ci.owned p ((mem_cfs ci.nodup p).mpr hp) with ⟨k, v, hv, hc⟩ | ⟨_, hj, _⟩
      · exact ⟨k, i.mem_dom hv, hlive.mpr ⟨v, hv, by rw [← i.stor k v hv, hc, hp], hc⟩⟩
      · rw [hpend] at hj; cases hj
    · rintro ⟨k, _, hk⟩
      obtain ⟨v, hv, hval, hc⟩ := hlive.mp hk
      rw [← hc, i.stor k v hv, hval]
  -- distinct keys have distinct newest versions, hence distinct content ids
  have hnodup : (c.dom.filterMap live).Nodup := by
    refine List.Pairwise.filterMap live (fun k k' hkk p hp p' hp' e => hkk ?_) i.domNodup
    obtain ⟨v, hv, _, hc⟩ := hlive.mp hp
    obtain ⟨v', hv', _, hc'⟩ := hlive.mp hp'
    cases i.cidUnique k k' v v' hv hv' (hc.trans (e ▸ hc'.symm))
    exact i.key_unique hv hv'
  have hcfs : c.cfs.Nodup := List.Pairwise.of_map (·.1) (fun _ _ hab e => hab (e ▸ rfl)) ci.nodup
  have hperm : c.cfs.Perm (c.dom.filterMap live) := (List.perm_ext_iff_of_nodup hcfs hnodup).mpr hmem
  have hvals : (c.dom.filterMap live).map (·.2) = s.dom.filterMap (fun k => (committed s k).bind (·.val)) := by
    rw [List.map_filterMap, h.dom]
    refine filterMap_congr fun k _ => ?_
    rw [h.committed_eq k]
    show ((Sys.latest (c.main k)).bind fun v => v.val.map fun n => (v.cid, n)).map (·.2) = _
    cases Sys.latest (c.main k) with
    | none => rfl
    | some v =>
      show (v.val.map fun n => (v.cid, n)).map (·.2) = v.val
      cases v.val <;> rfl
  exact congrArg Out.files (mergeSort_eq_of_perm (hvals ▸ hperm.map (·.2)))

end FsDb
