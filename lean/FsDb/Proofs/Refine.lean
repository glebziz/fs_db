import FsDb.Proofs.StepBegin
import FsDb.Proofs.StepWrite
import FsDb.Proofs.StepRollback
import FsDb.Proofs.GcAt
import FsDb.Proofs.StepCommit2
/-! The refinement theorem: every operation of the concrete model answers what the abstract
    specification answers, for every history. -/
namespace FsDb
open Sys Spec

/-- operations covered by the main refinement theorem (`reopen` and the storage walk `tree` are
    treated separately: they need the record / content-file invariants of C05 / C14) -/
def Op.core : Op → Bool
  | .reopen _ => false
  | .tree => false
  | _ => true

/-- the transaction whose view an operation reads -/
def Op.reads : Op → Option Nat
  | .get t _ => some t
  | .keys t => some t
  | _ => none

/-- the step theorem with transactions `cl` inside Commit / Rollback: they read nothing -/
theorem Refine.stepX {c : Sys} {s : State} {cl : List Nat} (h : Rx cl c s) (op : Op) (hop : op.core = true)
    (hcl : ∀ t, op.reads = some t → t ∉ cl) :
    Agree (Rx cl) (c.step op) (Spec.step s op) := by
  cases op with
  | begin t l => exact step_begin h t l
  | set t k n => exact step_set h t k n
  | del t k => exact step_del h t k
  | get t k => exact ⟨h.get_eq t k (hcl t rfl), h⟩
  | keys t => exact ⟨h.getKeys_eq t (hcl t rfl), h⟩
  | commit t => exact step_commit h t
  | rollback t => exact step_rollback h t
  | gc => exact step_gc h
  | drain => exact step_drain h
  | reopen f => simp [Op.core] at hop
  | tree => simp [Op.core] at hop

theorem Refine.step {c : Sys} {s : State} (h : R c s) (op : Op) (hop : op.core = true) :
    (c.step op).2 = (Spec.step s op).2 ∧ R (c.step op).1 (Spec.step s op).1 :=
  Refine.stepX h op hop (fun _ _ => by simp)

theorem Refine.run {c : Sys} {s : State} (h : R c s) (ops : List Op) (hops : ∀ op ∈ ops, op.core = true) :
    (c.run ops).2 = (Spec.run s ops).2 ∧ R (c.run ops).1 (Spec.run s ops).1 := by
  induction ops generalizing c s with
  | nil => exact ⟨rfl, h⟩
  | cons op ops ih =>
    have hs := Refine.step h op (hops op (by simp))
    have := ih hs.2 (fun o ho => hops o (List.mem_cons_of_mem _ ho))
    simp only [Sys.run, Spec.run]
    exact ⟨by rw [hs.1, this.1], this.2⟩

theorem Refine.run_init (ops : List Op) (hops : ∀ op ∈ ops, op.core = true) :
    (({} : Sys).run ops).2 = (Spec.run {} ops).2 :=
  (Refine.run R.init ops hops).1

theorem Inv.reachable (ops : List Op) (hops : ∀ op ∈ ops, op.core = true) : Inv (({} : Sys).run ops).1 :=
  (Refine.run R.init ops hops).2.inv

end FsDb
