import FsDb.Proofs.ConcMain
import FsDb.Proofs.CfsInv
/-! The content-record invariant of C14 (`CfsInv`) in the small-step concurrency model: it holds in
    every reachable state of every schedule, the jobs in execution counted with the pending ones.
    What this gives once the database has come to rest is `C14_concurrent_quiescent` (`Properties/C14`). -/
namespace FsDb.Conc
open Sys Spec

def todoOf : Pc → Option (List Ver)
  | .gcDelete todo => some todo
  | .workDelete todo => some todo
  | _ => none

def isTx : Op → Bool
  | .begin _ _ | .commit _ | .rollback _ => true
  | _ => false

/-- what one step of thread `i` does to the shared state, as far as contents are concerned -/
inductive Shape (σ : St) (i : Nat) (σ' : St) : Prop
  | loc (hsys : σ'.sys = σ.sys) (hbusy : σ'.busy = σ.busy)
      (h1 : todoOf (σ.thr i).pc = none) (h2 : todoOf (σ'.thr i).pc = none)
  | op (o : Op) (hm : isTx o = true) (hsys : σ'.sys = (σ.sys.step o).1) (hbusy : σ'.busy = σ.busy)
      (h1 : todoOf (σ.thr i).pc = none) (h2 : todoOf (σ'.thr i).pc = none)
  | store (extra : List (Nat × Nat)) (t : Nat) (k : Key) (val : Option Nat) (hx : ExtraOk σ.sys val extra)
      (hsys : σ'.sys = afterStore σ.sys extra t k val) (hbusy : σ'.busy = σ.busy)
      (h1 : todoOf (σ.thr i).pc = none) (h2 : todoOf (σ'.thr i).pc = none)
  | draw (hsys : σ'.sys = gcDrawX σ.sys σ.closing) (hbusy : σ'.busy = σ.busy)
      (h1 : todoOf (σ.thr i).pc = none) (h2 : todoOf (σ'.thr i).pc = none)
  | collect (hz : Nat) (hsys : σ'.sys = collectAt σ.sys hz) (hbusy : σ'.busy = σ.busy ++ [(i, delsAt σ.sys hz)])
      (h1 : todoOf (σ.thr i).pc = none) (h2 : todoOf (σ'.thr i).pc = some (delsAt σ.sys hz))
  | take (job : List Ver) (rest : List (List Ver)) (hp : σ.sys.pending = job :: rest)
      (hsys : σ'.sys = { σ.sys with pending := rest }) (hbusy : σ'.busy = σ.busy ++ [(i, job)])
      (h1 : todoOf (σ.thr i).pc = none) (h2 : todoOf (σ'.thr i).pc = some job)
  | del (v : Ver) (todo : List Ver) (hsys : σ'.sys = delOne σ.sys v) (hbusy : σ'.busy = σ.busy)
      (h1 : todoOf (σ.thr i).pc = some (v :: todo)) (h2 : todoOf (σ'.thr i).pc = some todo)
  | fin (hsys : σ'.sys = σ.sys) (hbusy : σ'.busy = σ.busy.filter (·.1 ≠ i))
      (h1 : todoOf (σ.thr i).pc = some []) (h2 : todoOf (σ'.thr i).pc = none)

/-- every successor state stores the record of thread `j` under `if j = i` -/
theorem todoOf_self {thr : Nat → Thread} {i : Nat} {th : Thread} :
    todoOf (if i = i then th else thr i).pc = todoOf th.pc := by rw [if_pos rfl]

-- `step_shape` analyses `Trans` and does not use this abbreviation; it closes the branch `Shape.loc` in a
-- proof that unfolds `step` directly.
macro "shape_loc" hpc:ident : tactic =>
  `(tactic| exact Shape.loc rfl rfl (by rw [$hpc:ident]; rfl) (by simp [St.goto, St.setThr, St.witness, St.linearize, todoOf]))

theorem step_shape {σ σ' : St} {i : Nat} (hs : step σ i = some σ') : Shape σ i σ' := by
  have tr := step_trans hs
  generalize hpc : (σ.thr i).pc = pc at tr
  cases tr with
  | gcDone | workDone => exact .fin rfl rfl (congrArg todoOf hpc) todoOf_self
  | gcDelete v todo | workDelete v todo => exact .del v todo rfl rfl (congrArg todoOf hpc) todoOf_self
  | setStore t k c =>
    exact .store [(σ.sys.nextCid, c)] t k (some c) (.inr ⟨c, rfl, rfl⟩) (storeSet_eq σ.sys t k c) rfl (congrArg todoOf hpc)
      todoOf_self
  | delStore t k =>
    exact .store [] t k none (.inl ⟨rfl, rfl⟩) (storeDel_eq σ.sys t k) rfl (congrArg todoOf hpc) todoOf_self
  | beginLock t lvl => exact .op (.begin t lvl) rfl rfl rfl (congrArg todoOf hpc) todoOf_self
  | commitNow t | commitRun t => exact .op (.commit t) rfl rfl rfl (congrArg todoOf hpc) todoOf_self
  | rollbackNow t | rollbackRun t => exact .op (.rollback t) rfl rfl rfl (congrArg todoOf hpc) todoOf_self
  | gcHorizon => exact .draw rfl rfl (congrArg todoOf hpc) todoOf_self
  | gcCollect hz => exact .collect hz rfl rfl (congrArg todoOf hpc) todoOf_self
  | workTake job rest hpend => exact .take job rest hpend rfl rfl (congrArg todoOf hpc) todoOf_self
  | _ => exact .loc rfl rfl (congrArg todoOf hpc) todoOf_self

/-- of a job in execution every version is still to be deleted or its content record is gone: what lets
    the finished job leave the ghost queue (`cfsInv_of_shape`, case `fin`) -/
def JobInv (σ : St) (i : Nat) : Prop :=
  ∀ job, (i, job) ∈ σ.busy → ∃ todo, todoOf (σ.thr i).pc = some todo ∧
    ∀ v ∈ job, v ∈ todo ∨ σ.sys.hasContent v.cid = none

structure CC (σ : St) : Prop where
  cfs : CfsInv (withBusy σ)
  job : ∀ i, JobInv σ i

theorem isTx_isMut {o : Op} (h : isTx o = true) : isMut o = true := by cases o <;> first | rfl | cases h

theorem content_gone {σ σ' : St} {i j : Nat} (h : CInv σ) (g : Guar σ σ' i) {job : List Ver} (hm : (j, job) ∈ σ.busy)
    {v : Ver} (hv : v ∈ job) (hn : σ.sys.hasContent v.cid = none) : σ'.sys.hasContent v.cid = none := by
  obtain ⟨t, _, fr⟩ := g.frame
  exact fr.content_imp (· = none) (h.rel.inv.pendBound job (mem_withBusy hm) v hv) rfl hn

theorem Shape.busy {σ σ' : St} {i : Nat} (sh : Shape σ i σ') {j : Nat} (hij : j ≠ i) {job : List Ver}
    (hm : (j, job) ∈ σ'.busy) : (j, job) ∈ σ.busy := by
  cases sh with
  | loc _ hb | op _ _ _ hb | store _ _ _ _ _ _ hb | draw _ hb | del _ _ _ hb => exact hb ▸ hm
  | collect _ _ hb | take _ _ _ _ hb =>
    exact (List.mem_append.mp (hb ▸ hm)).elim id fun hm => absurd (Prod.mk.inj (List.mem_singleton.mp hm)).1 hij
  | fin _ hb => exact mem_of_filter (hb ▸ hm)

theorem cfsInv_of_shape {σ σ' : St} {i : Nat} (h : CInv σ) (c : CC σ) (sh : Shape σ i σ') : CfsInv (withBusy σ') := by
  have ib := h.rel.inv
  have hc := c.cfs
  unfold withBusy at ib hc ⊢
  cases sh with
  | loc hsys hbusy => rw [hsys, hbusy]; exact hc
  | op o hm hsys hbusy =>
    rw [hsys, hbusy]
    show CfsInv (withB _ (σ.sys.step o).1, (σ.sys.step o).2).1
    rw [← withB_step ib _ (isTx_isMut hm)]
    exact CfsInv.step ib hc o
  | store extra t k val hx hsys hbusy =>
    rw [hsys, hbusy, ← withB_afterStore]
    exact CfsInv.store ib hc extra t k val hx
  | draw hsys hbusy =>
    rw [hsys, hbusy, ← withB_gcDrawX, gcDrawX_tick]
    exact hc.congr
  | collect hz hsys hbusy =>
    -- the unlinked versions are the new job in execution
    rw [hsys, hbusy]
    refine hc.transfer rfl (fun k v hv => ?_) (fun job hj => mem_busy_push.mpr (.inr hj)) (fun r hr => ⟨r, hr, rfl⟩)
    refine (removeLinks_cases (delsAt σ.sys hz) hv).imp (fun hl => ⟨k, v, hl, rfl⟩) fun ⟨w, hw, hwc⟩ => ?_
    exact ⟨delsAt σ.sys hz, mem_busy_push.mpr (.inl rfl), w, hw, hwc⟩
  | take job rest hp hsys hbusy =>
    rw [hsys, hbusy, withBusy_take hp]; exact hc
  | del v todo hsys hbusy =>
    rw [hsys, hbusy, ← withB_delOne]
    exact hc.deleteRun [v]
  | fin hsys hbusy h1 =>
    -- the job that leaves the ghost list is deleted completely: no content record names it
    rw [hsys, hbusy]
    refine hc.pending _ fun job hj => ?_
    refine (List.mem_append.mp hj).elim (fun hb => ?_) fun hs => .inl (List.mem_append_right _ hs)
    obtain ⟨e, he, rfl⟩ := List.mem_map.mp hb
    by_cases hei : e.1 = i
    · obtain ⟨todo, ht, hv⟩ := c.job i e.2 (hei ▸ he)
      rw [h1] at ht; cases ht
      exact .inr fun w hw => hasContent_eq_none.mp ((hv w hw).resolve_left List.not_mem_nil)
    · exact .inl (List.mem_append_left _ (List.mem_map.mpr ⟨e, List.mem_filter.mpr ⟨he, decide_eq_true hei⟩, rfl⟩))

theorem jobInv_of_shape {σ σ' : St} {i : Nat} (h : CInv σ) (c : CC σ) (sh : Shape σ i σ') (ok : StepOk σ i σ') :
    ∀ j, JobInv σ' j := by
  intro j job hm
  by_cases hij : j = i
  · subst hij
    have hj := c.job j
    have idle : todoOf (σ.thr j).pc = none → ∀ job, (j, job) ∉ σ.busy := fun h1 job hm => by
      obtain ⟨_, ht, _⟩ := hj job hm
      rw [h1] at ht; cases ht
    cases sh with
    | loc _ hb h1 | op _ _ _ hb h1 | store _ _ _ _ _ _ hb h1 | draw _ hb h1 => exact absurd (hb ▸ hm) (idle h1 job)
    | collect _ _ hb h1 h2 | take _ _ _ _ hb h1 h2 =>
      rcases List.mem_append.mp (hb ▸ hm) with hm | hm
      · exact absurd hm (idle h1 job)
      · exact ⟨_, h2, fun v hv => .inl ((Prod.mk.inj (List.mem_singleton.mp hm)).2 ▸ hv)⟩
    | del v todo hsys hb h1 h2 =>
      rw [hb] at hm
      obtain ⟨_, ht, hv⟩ := hj job hm
      rw [h1] at ht; cases ht
      refine ⟨todo, h2, fun w hw => ?_⟩
      rcases hv w hw with hin | hgone
      · rcases List.mem_cons.mp hin with rfl | hin
        · exact .inr (by rw [hsys]; exact delOne_gone σ.sys w)
        · exact .inl hin
      · exact .inr (content_gone h ok.guar hm hw hgone)
    | fin _ hb => exact absurd (List.mem_filter.mp (hb ▸ hm)).2 (by simp)
  · have hm' := sh.busy hij hm
    obtain ⟨todo, ht, hv⟩ := c.job j job hm'
    exact ⟨todo, by rw [ok.others j hij]; exact ht, fun v hv' => (hv v hv').imp_right (content_gone h ok.guar hm' hv')⟩

theorem CC.step {σ σ' : St} {i : Nat} (h : CInv σ) (c : CC σ) (hs : step σ i = some σ') : CC σ' :=
  have sh := step_shape hs
  ⟨cfsInv_of_shape h c sh, jobInv_of_shape h c sh (step_ok h hs)⟩

theorem CC.invoke {σ σ' : St} {i : Nat} {op : Op} (c : CC σ) (hs : invoke σ i op = some σ') : CC σ' := by
  -- same shared state and job list; thread `i` was idle, so it has no job in execution
  obtain ⟨hidle, pc, owner', he, rfl, _⟩ := invoke_some hs
  refine ⟨c.cfs, fun j job hm => ?_⟩
  obtain ⟨todo, ht, hv⟩ := c.job j job hm
  by_cases hij : j = i
  · rw [hij, hidle] at ht; cases ht
  · exact ⟨todo, (congrArg (fun th : Thread => todoOf th.pc) (if_neg hij)).trans ht, hv⟩

theorem CC.init : CC ({} : St) := ⟨CfsInv.init, fun _ _ hm => absurd hm List.not_mem_nil⟩

theorem CC.reachable (acts : List Act) : CC (exec {} acts) := by
  suffices ∀ σ, CInv σ → CC σ → CC (exec σ acts) from this {} CInv.init CC.init
  induction acts with
  | nil => intro σ _ c; exact c
  | cons a acts ih =>
    intro σ h c
    exact ih (next σ a) (next_inv h a) (next_ind a c (fun _ _ _ => CC.invoke c) fun _ _ => CC.step h c)

end FsDb.Conc
