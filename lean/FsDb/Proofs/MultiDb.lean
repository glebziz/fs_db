import FsDb.Proofs.Refine
import FsDb.Proofs.SpecShift
/-! Several databases in one process share only the sequence counter (`internal/model/sequence`).
    From the point of view of one database the others are an environment that advances the counter
    at arbitrary moments.  Such advances are invisible (`env_invisible`): the database answers what
    the specification answers to this database's operations alone. -/
namespace FsDb
open Sys Spec

def Sys.erun (c : Sys) : List EOp → Sys × List Out
  | [] => (c, [])
  | .op o :: rest => let r := c.step o; let r2 := Sys.erun r.1 rest; (r2.1, r.2 :: r2.2)
  | .tick n :: rest => Sys.erun (c.tick n) rest

def Spec.erun (s : State) : List EOp → State × List Out
  | [] => (s, [])
  | .op o :: rest => let r := Spec.step s o; let r2 := Spec.erun r.1 rest; (r2.1, r.2 :: r2.2)
  | .tick n :: rest => Spec.erun (Spec.tick s n) rest

def opsOf : List EOp → List Op
  | [] => []
  | .op o :: rest => o :: opsOf rest
  | .tick _ :: rest => opsOf rest

def EOp.plain : EOp → Bool
  | .op o => plainOp o
  | .tick _ => true

theorem mem_opsOf {op : Op} {es : List EOp} (h : op ∈ opsOf es) : .op op ∈ es := by
  induction es with
  | nil => cases h
  | cons e es ih =>
    cases e with
    | op o =>
      rcases List.mem_cons.mp h with rfl | h
      · exact List.mem_cons_self
      · exact List.mem_cons_of_mem _ (ih h)
    | tick n => exact List.mem_cons_of_mem _ (ih h)

theorem opsOf_append_op (es : List EOp) (op : Op) : opsOf (es ++ [.op op]) = opsOf es ++ [op] := by
  induction es with
  | nil => rfl
  | cons e es ih => cases e <;> simp [opsOf, ih]

theorem Spec.erun_append (s : State) (a b : List EOp) :
    Spec.erun s (a ++ b) =
      ((Spec.erun (Spec.erun s a).1 b).1, (Spec.erun s a).2 ++ (Spec.erun (Spec.erun s a).1 b).2) := by
  induction a generalizing s with
  | nil => rfl
  | cons x a ih =>
    cases x with
    | op o => simp only [List.cons_append, Spec.erun, ih, List.cons_append]
    | tick n => exact ih (Spec.tick s n)

theorem plainOp_eq_core (o : Op) : plainOp o = o.core := by cases o <;> rfl

theorem erun_refines {c : Sys} {s : State} (h : R c s) (es : List EOp) (hp : ∀ e ∈ es, e.plain = true) :
    Agree R (c.erun es) (Spec.erun s es) := by
  induction es generalizing c s with
  | nil => exact ⟨rfl, h⟩
  | cons e es ih =>
    have hrest : ∀ e' ∈ es, e'.plain = true := fun e' he' => hp e' (List.mem_cons_of_mem _ he')
    cases e with
    | op o =>
      have hs := Refine.step h o ((plainOp_eq_core o).symm.trans (hp (.op o) (by simp)))
      have := ih hs.2 hrest
      simp only [Sys.erun, Spec.erun]
      exact ⟨by rw [hs.1, this.1], this.2⟩
    | tick n =>
      simp only [Sys.erun, Spec.erun]
      exact ih (h.tick n) hrest

/-- only the order of stamps is observable, and a tick creates no stamp -/
theorem Spec.Shift.erun_erases {f : Nat → Nat} {s s' : State} (h : Shift f s s') (hs : SInv s) (ho : OwnLe s)
    (es : List EOp) (hp : ∀ e ∈ es, e.plain = true) :
    (Spec.erun s' es).2 = (Spec.run s (opsOf es)).2 := by
  induction es generalizing f s s' with
  | nil => rfl
  | cons e es ih =>
    have hrest : ∀ e' ∈ es, e'.plain = true := fun e' he' => hp e' (List.mem_cons_of_mem _ he')
    cases e with
    | op o =>
      obtain ⟨h1, g, h2⟩ := h.step hs ho o (hp (.op o) (by simp))
      simp only [Spec.erun, opsOf, Spec.run]
      rw [← h1, ih h2 (hs.step o) (ho.step o) hrest]
    | tick n =>
      simp only [Spec.erun, opsOf]
      exact ih (h.right_tick n) hs ho hrest

theorem erun_erases (es : List EOp) (hp : ∀ e ∈ es, e.plain = true) :
    (Spec.erun {} es).2 = (Spec.run {} (opsOf es)).2 :=
  (Shift.refl {}).erun_erases SInv.init OwnLe.init es hp

theorem env_invisible (es : List EOp) (hp : ∀ e ∈ es, e.plain = true) :
    (({} : Sys).erun es).2 = (Spec.run {} (opsOf es)).2 := by
  rw [(erun_refines R.init es hp).1]
  exact erun_erases es hp

structure Proc where
  global : Nat := 0
  dbs : Nat → Sys := fun _ => {}

/-- operation `o` on database `d`: the database sees the process-wide counter, and leaves it advanced -/
def Proc.step (p : Proc) (d : Nat) (o : Op) : Proc × Out :=
  let c := (p.dbs d).tick p.global
  let r := c.step o
  ({ global := max p.global r.1.counter, dbs := fun d' => if d' = d then r.1 else p.dbs d' }, r.2)

def Proc.run (p : Proc) : List (Nat × Op) → Proc × List (Nat × Out)
  | [] => (p, [])
  | (d, o) :: rest => let r := p.step d o; let r2 := Proc.run r.1 rest; (r2.1, (d, r.2) :: r2.2)

/-- Database `d` in the process run is that database run alone in an environment (so that
    `env_invisible` applies): its own operations, each preceded by a tick to the counter value the
    process had reached. -/
theorem run_view (d : Nat) (p : Proc) (h : List (Nat × Op)) (hp : ∀ x ∈ h, plainOp x.2 = true) :
    ∃ es, (∀ e ∈ es, e.plain = true) ∧ opsOf es = (h.filter (·.1 = d)).map (·.2) ∧
      ((p.run h).2.filter (·.1 = d)).map (·.2) = ((p.dbs d).erun es).2 := by
  induction h generalizing p with
  | nil => exact ⟨[], (fun _ h => nomatch h), rfl, rfl⟩
  | cons x h ih =>
    obtain ⟨d', o⟩ := x
    obtain ⟨es, h1, h2, h3⟩ := ih (p.step d' o).1 fun y hy => hp y (List.mem_cons_of_mem _ hy)
    by_cases hd : d' = d
    · subst hd
      rw [show (p.step d' o).1.dbs d' = (((p.dbs d').tick p.global).step o).1 from if_pos rfl] at h3
      refine ⟨.tick p.global :: .op o :: es, ?_, by simpa [opsOf] using h2,
        by simpa [Proc.run, Sys.erun] using ⟨rfl, h3⟩⟩
      exact List.forall_mem_cons.mpr ⟨rfl, List.forall_mem_cons.mpr ⟨hp (d', o) List.mem_cons_self, h1⟩⟩
    · rw [show (p.step d' o).1.dbs d = p.dbs d from if_neg (Ne.symm hd)] at h3
      exact ⟨es, h1, by simpa [hd] using h2, by simpa [Proc.run, hd] using h3⟩

end FsDb
