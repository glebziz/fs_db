import FsDb.Proofs.Reads
/-! `Begin` (`transaction.Begin`): its two outcomes as a rule of proof, for the invariants that only look at the state
    after it; the refinement step, which needs both sides' tests to agree and unfolds them. -/
namespace FsDb
open Sys Spec

/-- `Begin` as a rule of proof: nothing happens, or a fresh number is drawn for a new registry entry -/
theorem begin_ind (c : Sys) (t : Nat) (lvl : Level) {P : Sys → Prop} (same : P c)
    (began : t ≠ mainTx → (∀ r ∈ c.reg, r.id ≠ t) →
      P { c with counter := c.counter + 1, reg := c.reg ++ [⟨t, lvl, c.counter + 1⟩] }) :
    P (c.begin t lvl).1 := by
  unfold Sys.begin
  split
  · exact same
  · next h =>
    exact began (fun e => h (.inl e)) fun r hr e => h (.inr (List.any_eq_true.mpr ⟨r, hr, decide_eq_true e⟩))

/-- The new registry entry carries the fresh number `counter + 1`: above every version and every
    begin number so far. -/
theorem step_begin {c : Sys} {s : State} {cl : List Nat} (h : Rx cl c s) (t : Nat) (lvl : Level) :
    Agree (Rx cl) (c.begin t lvl) (Spec.begin s t lvl) := by
  unfold Sys.begin Spec.begin
  rw [← List.isSome_find?, ← h.find_isSome t]
  split
  · exact ⟨rfl, h⟩
  next hc =>
  obtain ⟨htm, hnf⟩ := not_or.mp hc
  have i := h.inv
  have hnone : ∀ r ∈ c.reg, r.id ≠ t := fun r hr e =>
    hnf (h.find_isSome t ▸ List.find?_isSome.mpr ⟨r, hr, by simpa using e⟩)
  have htx : c.txs t = none := by
    cases hst : c.txs t with
    | none => rfl
    | some st => obtain ⟨_, r, hr, hid⟩ := i.txsReg t st hst; exact absurd hid (hnone r hr)
  have hmem : ∀ {p : TxRec → Prop}, (∀ r ∈ c.reg, p r) → p ⟨t, lvl, c.counter + 1⟩ →
      ∀ r ∈ c.reg ++ [⟨t, lvl, c.counter + 1⟩], p r := fun ho hn r hr =>
    (List.mem_append.mp hr).elim (ho r) fun hr => List.mem_singleton.mp hr ▸ hn
  have i1 := i.raise (Nat.le_succ c.counter) (Nat.le_refl _)
  have i' : Inv { c with counter := c.counter + 1, reg := c.reg ++ [⟨t, lvl, c.counter + 1⟩] } :=
    { i1 with
      regIds := pairwise_concat.mpr ⟨i.regIds, hnone⟩
      regMain := hmem i.regMain htm
      regSorted := pairwise_concat.mpr ⟨i.regSorted, fun r hr => Nat.lt_succ_of_le (i.regBound r hr).2⟩
      regBound := hmem i1.regBound ⟨Nat.succ_pos _, Nat.le_refl _⟩
      txsReg := fun t' st hst => have ⟨a, r, hr, hid⟩ := i.txsReg t' st hst; ⟨a, r, List.mem_append_left _ hr, hid⟩
      ownAfter := hmem i.ownAfter fun st hst => by simp [htx] at hst
      beginNotVer := hmem i.beginNotVer fun k v hv => Nat.ne_of_lt (i.seq_lt_next hv) }
  refine ⟨rfl, i', congrArg (· + 1) h.clock, h.dom, ?_, ?_, fun k => ?_, h.histDom⟩
  · simp only [List.map_append, List.map_cons, List.map_nil, h.reg, h.clock]
  · intro x hx k
    rcases List.mem_append.mp hx with hx | hx
    · exact h.own x hx k
    · simp only [List.mem_singleton.mp hx, ownLatest_tx htm, htx, Option.map_none]
  · exact (h.histRel k).imp fun v hv ho => hmem ho fun _ => i.seq_lt_next (i.main_sub_all hv)

end FsDb
