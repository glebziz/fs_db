import FsDb.Proofs.Reads
import FsDb.Model.SysSteps
/-! Physical deletion (`deleteFiles`, `drain`) is invisible: it preserves `Inv` and `R`. -/
namespace FsDb
open Sys Spec

theorem deleteFiles_eq (s : Sys) (vs : List Ver) : s.deleteFiles vs = vs.foldl delOne s := rfl

section delOneFields
variable (s : Sys) (v : Ver)
theorem delOne_counter : (delOne s v).counter = s.counter := by unfold delOne; split <;> rfl
theorem delOne_main : (delOne s v).main = s.main := by unfold delOne; split <;> rfl
theorem delOne_txs : (delOne s v).txs = s.txs := by unfold delOne; split <;> rfl
theorem delOne_all : (delOne s v).all = s.all := by unfold delOne; split <;> rfl
theorem delOne_reg : (delOne s v).reg = s.reg := by unfold delOne; split <;> rfl
theorem delOne_dom : (delOne s v).dom = s.dom := by unfold delOne; split <;> rfl
theorem delOne_nextCid : (delOne s v).nextCid = s.nextCid := by unfold delOne; split <;> rfl
theorem delOne_pending : (delOne s v).pending = s.pending := by unfold delOne; split <;> rfl
end delOneFields

theorem delOne_cases (s : Sys) (v : Ver) :
    (s.hasContent v.cid = none ∧ delOne s v = s) ∨
    (s.hasContent v.cid ≠ none ∧
      delOne s v = { s with cfs := s.cfs.filter (·.1 ≠ v.cid), recs := s.recs.filter (·.cid ≠ v.cid) }) := by
  unfold delOne
  split
  · next h => exact Or.inl ⟨h, rfl⟩
  · next h => exact Or.inr ⟨h ▸ Option.some_ne_none _, rfl⟩

theorem delOne_hasContent (s : Sys) (v : Ver) {cid : Nat} (h : cid ≠ v.cid) :
    (delOne s v).hasContent cid = s.hasContent cid := by
  rcases delOne_cases s v with ⟨_, e⟩ | ⟨_, e⟩ <;> rw [e]
  exact congrArg _ (find?_filter_ne Prod.fst s.cfs h)

theorem delOne_cfs (s : Sys) (v : Ver) : (delOne s v).cfs = s.cfs.filter (·.1 ≠ v.cid) := by
  rcases delOne_cases s v with ⟨h, e⟩ | ⟨_, e⟩ <;> rw [e]
  exact (List.filter_eq_self.mpr fun p hp => decide_eq_true (hasContent_eq_none.mp h p hp)).symm

theorem delOne_gone (s : Sys) (v : Ver) : (delOne s v).hasContent v.cid = none := by
  rcases delOne_cases s v with ⟨h, e⟩ | ⟨_, e⟩ <;> rw [e]
  · exact h
  · exact hasContent_eq_none.mpr fun p hp => of_decide_eq_true (List.mem_filter.mp hp).2

theorem mem_delOne_recs {s : Sys} {v r : Ver} :
    r ∈ (delOne s v).recs ↔ r ∈ s.recs ∧ (r.cid = v.cid → s.hasContent v.cid = none) := by
  rcases delOne_cases s v with ⟨hn, e⟩ | ⟨hs, e⟩ <;> rw [e]
  · exact ⟨fun h => ⟨h, fun _ => hn⟩, And.left⟩
  · simp only [List.mem_filter, decide_eq_true_eq, ne_eq, hs, imp_false]

theorem delOne_inv {c : Sys} (i : Inv c) (v : Ver) (hd : Unlinked c.all v) :
    Inv (delOne c v) := by
  rcases delOne_cases c v with ⟨_, e⟩ | ⟨_, e⟩ <;> rw [e]
  · exact i
  · exact { i with
      stor := fun k w hw => (e ▸ delOne_hasContent c v (hd k w hw)).trans (i.stor k w hw)
      cfsBound := fun p hp => i.cfsBound p (mem_of_filter hp) }

theorem deleteFiles_induction {P : Sys → Prop} {c : Sys} (vs : List Ver) (h0 : P c)
    (hstep : ∀ s, P s → ∀ v ∈ vs, P (delOne s v)) : P (c.deleteFiles vs) :=
  List.foldlRecOn vs delOne h0 hstep

theorem deleteFiles_field {α : Type} (f : Sys → α) (hf : ∀ s v, f (delOne s v) = f s) (c : Sys) (vs : List Ver) :
    f (c.deleteFiles vs) = f c :=
  deleteFiles_induction (P := fun s => f s = f c) vs rfl fun s h v _ => (hf s v).trans h

section deleteFilesFields
variable (c : Sys) (vs : List Ver)
theorem deleteFiles_counter : (c.deleteFiles vs).counter = c.counter := deleteFiles_field _ delOne_counter c vs
theorem deleteFiles_main : (c.deleteFiles vs).main = c.main := deleteFiles_field _ delOne_main c vs
theorem deleteFiles_txs : (c.deleteFiles vs).txs = c.txs := deleteFiles_field _ delOne_txs c vs
theorem deleteFiles_all : (c.deleteFiles vs).all = c.all := deleteFiles_field _ delOne_all c vs
theorem deleteFiles_reg : (c.deleteFiles vs).reg = c.reg := deleteFiles_field _ delOne_reg c vs
theorem deleteFiles_dom : (c.deleteFiles vs).dom = c.dom := deleteFiles_field _ delOne_dom c vs
theorem deleteFiles_nextCid : (c.deleteFiles vs).nextCid = c.nextCid := deleteFiles_field _ delOne_nextCid c vs
theorem deleteFiles_pending : (c.deleteFiles vs).pending = c.pending := deleteFiles_field _ delOne_pending c vs
end deleteFilesFields

theorem deleteFiles_recs_sub (c : Sys) (vs : List Ver) (r : Ver) (h : r ∈ (c.deleteFiles vs).recs) : r ∈ c.recs :=
  deleteFiles_induction (P := fun s => r ∈ s.recs → r ∈ c.recs) vs id (fun _ ih _ _ hr => ih (mem_delOne_recs.mp hr).1) h

theorem deleteFiles_recs_keep' (c : Sys) (vs : List Ver) (r : Ver) (h : r ∈ c.recs) (hne : ∀ v ∈ vs, r.cid ≠ v.cid) :
    r ∈ (c.deleteFiles vs).recs :=
  deleteFiles_induction (P := fun s => r ∈ s.recs) vs h fun _ hs v hv =>
    mem_delOne_recs.mpr ⟨hs, fun e => absurd e (hne v hv)⟩

theorem deleteFiles_cfs (c : Sys) (vs : List Ver) :
    (c.deleteFiles vs).cfs = c.cfs.filter (fun p => vs.all (fun v => p.1 ≠ v.cid)) := by
  rw [deleteFiles_eq]
  induction vs generalizing c with
  | nil => exact (List.filter_eq_self.mpr fun _ _ => rfl).symm
  | cons v vs ih => simp only [List.foldl_cons, ih, delOne_cfs, List.filter_filter, List.all_cons, Bool.and_comm]

theorem deleteFiles_inv {c : Sys} (i : Inv c) (vs : List Ver)
    (hd : ∀ v ∈ vs, Unlinked c.all v) : Inv (c.deleteFiles vs) :=
  (deleteFiles_induction (P := fun s => Inv s ∧ s.all = c.all) vs ⟨i, rfl⟩ fun s ⟨is, hs⟩ v hv =>
    ⟨delOne_inv is v (hs ▸ hd v hv), (delOne_all s v).trans hs⟩).1

theorem deleteFiles_R {c : Sys} {s : State} {cl : List Nat} (h : Rx cl c s) (vs : List Ver)
    (hd : ∀ v ∈ vs, Unlinked c.all v) : Rx cl (c.deleteFiles vs) s := by
  exact h.congr (deleteFiles_inv h.inv vs hd) (deleteFiles_counter c vs) (deleteFiles_dom c vs) (deleteFiles_reg c vs)
    (deleteFiles_main c vs) (deleteFiles_txs c vs)

theorem pending_flatten_unlinked {c : Sys} (i : Inv c) : ∀ v ∈ c.pending.flatten, Unlinked c.all v := by
  intro v hv
  obtain ⟨job, hj, hvj⟩ := List.mem_flatten.mp hv
  exact i.pendDead job hj v hvj

/-- the pool runs its jobs one after the other: one list of deletions -/
theorem drain_eq (c : Sys) : (c.drain).1 = { c.deleteFiles c.pending.flatten with pending := [] } := by
  simp only [Sys.drain, deleteFiles_eq, List.foldl_flatten]

theorem drain_reg (c : Sys) : (c.drain).1.reg = c.reg := drain_eq c ▸ deleteFiles_reg c _
theorem drain_main (c : Sys) : (c.drain).1.main = c.main := drain_eq c ▸ deleteFiles_main c _
theorem drain_pending (c : Sys) : (c.drain).1.pending = [] := rfl

theorem step_drain {c : Sys} {s : State} {cl : List Nat} (h : Rx cl c s) :
    Agree (Rx cl) c.drain (s, .ok) :=
  ⟨rfl, drain_eq c ▸ (deleteFiles_R h c.pending.flatten (pending_flatten_unlinked h.inv)).pending [] nofun⟩

end FsDb
