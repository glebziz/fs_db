import FsDb.Proofs.SpecInv
/-! The specification only observes the *order* of stamps.  `Shift f s s'`: `s'` is `s` with every stamp renamed by an
    `f` strictly increasing on the stamps in use, and a clock that may run ahead.  Core operations keep the relation and
    answer the same on both sides (`Shift.step`); a collector pass on one side only keeps it too, whence `erase_bg`. -/
namespace FsDb.Spec

def mapV (f : Nat → Nat) (v : SVer) : SVer := ⟨f v.stamp, v.val⟩
def mapTx (f : Nat → Nat) (t : STx) : STx := ⟨t.id, t.level, f t.beginStamp, fun k => (t.own k).map (mapV f)⟩

/-- `Shift` constrains the renaming only up to the clock of `s`.  `SInv` puts the committed and the begin stamps
    below it and says nothing of the stamps of own writes: this does. -/
def OwnLe (s : State) : Prop := ∀ t ∈ s.open_, ∀ k v, t.own k = some v → v.stamp ≤ s.clock

structure Shift (f : Nat → Nat) (s s' : State) : Prop where
  mono : ∀ x y, x ≤ s.clock → y ≤ s.clock → x < y → f x < f y
  top : ∀ x, x ≤ s.clock → f x ≤ s'.clock
  hist : ∀ k, s'.hist k = (s.hist k).map (mapV f)
  open_ : s'.open_ = s.open_.map (mapTx f)
  dom : s'.dom = s.dom

theorem mapTx_id (t : STx) : mapTx id t = t :=
  congrArg (STx.mk t.id t.level t.beginStamp) (funext fun k => by cases t.own k <;> rfl)

/-- `s'` is `s` with the stamps renamed in order -/
def Shifted (s s' : State) : Prop := ∃ f, Shift f s s'

theorem Shift.refl (s : State) : Shift id s s :=
  ⟨fun _ _ _ _ h => h, fun _ h => h, fun _ => (List.map_id'' (fun _ => rfl) _).symm,
   (List.map_id'' mapTx_id _).symm, rfl⟩

theorem OwnLe.init : OwnLe ({} : State) := nofun

theorem OwnLe.mono {s t : State} (h : OwnLe s) (ho : t.open_ = s.open_) (hc : s.clock ≤ t.clock) : OwnLe t :=
  fun x hx k v hv => Nat.le_trans (h x (ho ▸ hx) k v hv) hc

theorem OwnLe.close {s : State} (h : OwnLe s) (t : Nat) : OwnLe (Spec.close s t) :=
  fun x hx => h x (mem_of_filter hx)

theorem OwnLe.step {s : State} (h : OwnLe s) (op : Op) : OwnLe (Spec.step s op).1 := by
  have up : ∀ {x k v}, x ∈ s.open_ → x.own k = some v → v.stamp ≤ s.clock + 1 :=
    fun hx hv => Nat.le_succ_of_le (h _ hx _ _ hv)
  refine step_ind (same := h) (ticked := h.mono rfl (Nat.le_succ _)) (began := ?_)
    (wroteMain := fun _ _ => h.mono rfl (Nat.le_succ _)) (wroteTx := ?_) (closed := fun t _ => h.close t)
    (published := fun t _ _ _ => (h.close t).mono rfl (Nat.le_succ _)) (reopened := fun _ _ => List.forall_mem_nil _)
  · intro t l _ _ _
    exact List.forall_mem_append.mpr ⟨fun x hx k v => up hx, List.forall_mem_singleton.mpr nofun⟩
  · intro t k val
    refine List.forall_mem_map.mpr fun y hy k' v hv => ?_
    rw [putOwn_own] at hv
    split at hv
    · cases hv; exact Nat.le_refl _
    · exact up hy hv

theorem newerS_map {f : Nat → Nat} {c : Nat} (hlt : ∀ x y, x ≤ c → y ≤ c → (f x < f y ↔ x < y))
    {a b : Option SVer} (ha : ∀ v, a = some v → v.stamp ≤ c) (hb : ∀ v, b = some v → v.stamp ≤ c) :
    newerS (a.map (mapV f)) (b.map (mapV f)) = (newerS a b).map (mapV f) := by
  rw [newerS_eq]
  exact (newerBy_map (mapV f) fun x y hx hy => hlt _ _ (hb y hy) (ha x hx)).symm

theorem outOf_map (f : Nat → Nat) (o : Option SVer) : outOf (o.map (mapV f)) = outOf o := by
  rcases o with _ | ⟨_, _ | _⟩ <;> rfl

theorem hasValue_map (f : Nat → Nat) (o : Option SVer) : hasValue (o.map (mapV f)) = hasValue o := by
  rcases o with _ | ⟨_, _ | _⟩ <;> rfl

namespace Shift
variable {f : Nat → Nat} {s s' : State}

theorem lt_iff (h : Shift f s s') {x y : Nat} (hx : x ≤ s.clock) (hy : y ≤ s.clock) : f x < f y ↔ x < y := by
  refine ⟨fun hf => ?_, h.mono x y hx hy⟩
  rcases Nat.lt_trichotomy x y with h1 | h1 | h1
  · exact h1
  · subst h1; omega
  · have := h.mono y x hy hx h1; omega

theorem committed_eq (h : Shift f s s') (k : Key) : committed s' k = (committed s k).map (mapV f) := by
  unfold committed; rw [h.hist k, List.getLast?_map]

theorem find_eq (h : Shift f s s') (t : Nat) : find s' t = (find s t).map (mapTx f) :=
  find_of_map h.open_ (fun _ => rfl) t

theorem find_none (h : Shift f s s') {t : Nat} (hf : find s t = none) : find s' t = none := by rw [h.find_eq, hf]; rfl

theorem find_some (h : Shift f s s') {t : Nat} {x : STx} (hf : find s t = some x) : find s' t = some (mapTx f x) := by
  rw [h.find_eq, hf]; rfl

theorem visible_eq (h : Shift f s s') (hs : SInv s) (ho : OwnLe s)
    (lvl : Level) (b : Nat) (hb : b ≤ s.clock) (own : Key → Option SVer)
    (hown : ∀ k v, own k = some v → v.stamp ≤ s.clock) (k : Key) :
    visible s' lvl (f b) (fun k => (own k).map (mapV f)) k = (visible s lvl b own k).map (mapV f) := by
  have hlt : ∀ x y, x ≤ s.clock → y ≤ s.clock → (f x < f y ↔ x < y) := fun x y hx hy => h.lt_iff hx hy
  have hc : ∀ v, committed s k = some v → v.stamp ≤ s.clock := fun v hv => committed_le hs hv
  cases lvl with
  | ru =>
    simp only [visible]
    rw [h.open_, h.committed_eq k, List.foldl_map, newerS_eq]
    exact (foldl_newerBy_map (f := SVer.stamp) (g := SVer.stamp) (mapV f) (P := (·.stamp ≤ s.clock))
      (fun x y hx hy => h.lt_iff hy hx) (·.own k) _ _ hc fun t ht => ho t ht k :)
  | rc =>
    simp only [visible]
    rw [h.committed_eq k]
    exact newerS_map hlt (hown k) hc
  | rr | ser =>
    simp only [visible]
    cases own k with
    | some v => rfl
    | none =>
      simp only [Option.map_none]
      rw [h.hist k, ← List.getLast?_map, List.filter_map]
      exact congrArg (fun l => (l.map (mapV f)).getLast?)
        (List.filter_congr fun v hv => decide_eq_decide.mpr (hlt _ _ (hs.stampsLe k v hv) hb))

theorem ctx_cases (h : Shift f s s') (hs : SInv s) (ho : OwnLe s) (t : Nat) :
    ctxOf s t = none ∧ ctxOf s' t = none ∨
    ∃ l b o b' o', ctxOf s t = some (l, b, o) ∧ ctxOf s' t = some (l, b', o') ∧
      ∀ k, visible s' l b' o' k = (visible s l b o k).map (mapV f) := by
  by_cases ht : t = mainTx
  · subst ht
    exact .inr ⟨_, _, _, 0, fun _ => none, ctxOf_main s, ctxOf_main s',
      h.visible_eq hs ho .rc 0 (Nat.zero_le _) (fun _ => none) nofun⟩
  · rw [ctxOf_of_ne ht, ctxOf_of_ne ht, h.find_eq t]
    cases hf : find s t with
    | none => exact .inl ⟨rfl, rfl⟩
    | some x =>
      have hx := (find_mem hf).1
      exact .inr ⟨_, _, _, _, _, rfl, rfl, h.visible_eq hs ho x.level x.beginStamp (hs.beginLe x hx) x.own (ho x hx)⟩

theorem get_eq (h : Shift f s s') (hs : SInv s) (ho : OwnLe s) (t : Nat) (k : Key) : Spec.get s' t k = Spec.get s t k := by
  rcases h.ctx_cases hs ho t with ⟨e, e'⟩ | ⟨l, b, o, b', o', e, e', hv⟩
  · rw [get_closed e, get_closed e']
  · rw [get_of_ctx e, get_of_ctx e', hv, outOf_map]

theorem getKeys_eq (h : Shift f s s') (hs : SInv s) (ho : OwnLe s) (t : Nat) : Spec.getKeys s' t = Spec.getKeys s t := by
  rcases h.ctx_cases hs ho t with ⟨e, e'⟩ | ⟨l, b, o, b', o', e, e', hv⟩
  · rw [getKeys_closed e, getKeys_closed e']
  · simp only [getKeys_of_ctx e, getKeys_of_ctx e', h.dom, hv, hasValue_map]

end Shift

/-- `f` with `c + 1 ↦ c' + 1`: the renaming after both sides have drawn their next stamp -/
def ext (f : Nat → Nat) (c c' : Nat) : Nat → Nat := fun x => if x = c + 1 then c' + 1 else f x

theorem ext_old (f : Nat → Nat) (c c' : Nat) {x : Nat} (hx : x ≤ c) : ext f c c' x = f x :=
  if_neg (by omega)

theorem ext_new (f : Nat → Nat) (c c' : Nat) : ext f c c' (c + 1) = c' + 1 :=
  if_pos rfl

theorem mapV_new (f : Nat → Nat) (c c' : Nat) (val : Option Nat) : mapV (ext f c c') ⟨c + 1, val⟩ = ⟨c' + 1, val⟩ :=
  congrArg (SVer.mk · val) (ext_new f c c')

theorem mapTx_putOwn (g : Nat → Nat) (t : Nat) (k : Key) (v : SVer) (y : STx) :
    mapTx g (putOwn t k v y) = putOwn t k (mapV g v) (mapTx g y) :=
  congrArg (STx.mk _ _ _) (funext fun _ => apply_ite (Option.map (mapV g)) ..)

namespace Shift
variable {f : Nat → Nat} {s s' : State}

/-- Drawing the next stamp on both sides.  Every operation that stamps something is this, followed by a change
    of `hist` or `open_` in which only the new stamp appears. -/
theorem tick (h : Shift f s s') (hs : SInv s) (ho : OwnLe s) :
    Shift (ext f s.clock s'.clock) { s with clock := s.clock + 1 } { s' with clock := s'.clock + 1 } := by
  have old : ∀ {x}, x ≤ s.clock → ext f s.clock s'.clock x = f x := ext_old f _ _
  refine ⟨fun x y (hx : x ≤ s.clock + 1) (hy : y ≤ s.clock + 1) hxy => ?_, fun x (hx : x ≤ s.clock + 1) => ?_,
    fun k => ?_, ?_, h.dom⟩
  · -- `x < y`: `x` is an old stamp, and `y` is an old one or the new one, which goes above every image
    have hx' : x ≤ s.clock := Nat.le_of_lt_succ (Nat.lt_of_lt_of_le hxy hy)
    rw [old hx']
    rcases Nat.lt_or_eq_of_le hy with hy | rfl
    · rw [old (Nat.le_of_lt_succ hy)]
      exact h.mono x y hx' (Nat.le_of_lt_succ hy) hxy
    · rw [ext_new]
      exact Nat.lt_succ_of_le (h.top x hx')
  · rcases Nat.lt_or_eq_of_le hx with hx | rfl
    · rw [old (Nat.le_of_lt_succ hx)]
      exact Nat.le_succ_of_le (h.top x (Nat.le_of_lt_succ hx))
    · rw [ext_new]
      exact Nat.le_refl _
  · show s'.hist k = (s.hist k).map _
    rw [h.hist k]
    exact List.map_congr_left fun v hv => by rw [mapV, mapV, old (hs.stampsLe k v hv)]
  · show s'.open_ = s.open_.map _
    rw [h.open_]
    refine List.map_congr_left fun t ht => ?_
    rw [mapTx, mapTx, old (hs.beginLe t ht)]
    refine congrArg (STx.mk _ _ _) (funext fun k => ?_)
    cases hk : t.own k with
    | none => rfl
    | some v => rw [Option.map_some, Option.map_some, mapV, mapV, old (ho t ht k v hk)]

/-- a collector pass (or anything else that only advances the clock) on the right side only -/
theorem right_clock (h : Shift f s s') (t' : State) (hc : s'.clock ≤ t'.clock) (hh : t'.hist = s'.hist)
    (ho : t'.open_ = s'.open_) (hd : t'.dom = s'.dom) : Shift f s t' :=
  ⟨h.mono, fun x hx => Nat.le_trans (h.top x hx) hc, by rw [hh]; exact h.hist, by rw [ho]; exact h.open_, by rw [hd]; exact h.dom⟩

theorem right_tick (h : Shift f s s') (n : Nat) : Shift f s (Spec.tick s' n) :=
  h.right_clock _ (Nat.le_max_left _ _) rfl rfl rfl

theorem close (h : Shift f s s') (t : Nat) : Shift f (Spec.close s t) (Spec.close s' t) := by
  refine ⟨h.mono, h.top, h.hist, ?_, h.dom⟩
  show s'.open_.filter (·.id ≠ t) = (s.open_.filter (·.id ≠ t)).map (mapTx f)
  rw [h.open_, List.filter_map]
  rfl

theorem dom_addDom (h : Shift f s s') (k : Key) : (Spec.addDom s' k).dom = (Spec.addDom s k).dom := by
  rw [addDom_dom, addDom_dom, h.dom]

theorem begin_step (h : Shift f s s') (hs : SInv s) (ho : OwnLe s) (t : Nat) (lvl : Level) :
    Agree Shifted (Spec.begin s t lvl) (Spec.begin s' t lvl) := by
  unfold Spec.begin
  rw [h.find_eq t, Option.isSome_map]
  split
  · exact ⟨rfl, f, h⟩
  · have ht := h.tick hs ho
    refine ⟨rfl, _, ht.mono, ht.top, ht.hist, ?_, ht.dom⟩
    show s'.open_ ++ [_] = (s.open_ ++ [_]).map _
    rw [List.map_append, ← ht.open_]
    simp only [List.map_cons, List.map_nil, mapTx, ext_new, Option.map_none]

theorem write_step (h : Shift f s s') (hs : SInv s) (ho : OwnLe s) (t : Nat) (k : Key) (val : Option Nat) :
    Agree Shifted (Spec.write s t k val) (Spec.write s' t k val) := by
  have ht := h.tick hs ho
  by_cases hm : t = mainTx
  · rw [hm, write_main, write_main]
    refine ⟨rfl, _, ht.mono, ht.top, fun k' => ?_, ht.open_, h.dom_addDom k⟩
    by_cases hk : k' = k
    · simp only [if_pos hk, List.map_append, List.map_singleton, mapV_new]; exact congrArg (· ++ _) (ht.hist k)
    · simp only [if_neg hk]; exact ht.hist k'
  · cases hf : find s t with
    | none =>
      rw [write_closed hm hf, write_closed hm (h.find_none hf)]
      exact ⟨rfl, f, h⟩
    | some x =>
      rw [write_open hm hf, write_open hm (h.find_some hf)]
      refine ⟨rfl, _, ht.mono, ht.top, ht.hist, ?_, h.dom_addDom k⟩
      show s'.open_.map _ = (s.open_.map _).map _
      rw [ht.open_, List.map_map, List.map_map]
      exact List.map_congr_left fun y _ => by rw [Function.comp, Function.comp, mapTx_putOwn, mapV_new]

theorem written_eq (h : Shift f s s') (x : STx) : writtenS s'.dom (mapTx f x).own = writtenS s.dom x.own := by
  unfold writtenS
  rw [h.dom]
  exact List.filter_congr fun k _ => Option.isSome_map

theorem conflict_eq (h : Shift f s s') (hs : SInv s) (x : STx) (hb : x.beginStamp ≤ s.clock) :
    conflictS s' (mapTx f x) = conflictS s x := by
  unfold conflictS
  rw [h.written_eq x]
  congr 2
  funext k
  rw [h.committed_eq k]
  cases hc : committed s k with
  | none => rfl
  | some v => exact decide_eq_decide.mpr (h.lt_iff hb (committed_le hs hc))

theorem publish (h : Shift f s s') (hs : SInv s) (ho : OwnLe s) (x : STx) :
    Shift (ext f s.clock s'.clock) (publishS s x) (publishS s' (mapTx f x)) := by
  have ht := h.tick hs ho
  refine ⟨ht.mono, ht.top, fun k => ?_, ht.open_, ht.dom⟩
  rw [publish_hist, publish_hist, h.written_eq x]
  show (match (x.own k).map (mapV f) with | some v => _ | none => _) = _
  cases x.own k with
  | none => exact ht.hist k
  | some v =>
    by_cases hk : k ∈ writtenS s.dom x.own
    · simp only [Option.map_some, if_pos hk, List.map_append, List.map_singleton, mapV_new]
      exact congrArg (· ++ _) (ht.hist k)
    · simp only [Option.map_some, if_neg hk]; exact ht.hist k

theorem commit_step (h : Shift f s s') (hs : SInv s) (ho : OwnLe s) (t : Nat) :
    Agree Shifted (Spec.commit s t) (Spec.commit s' t) := by
  by_cases hm : t = mainTx
  · rw [commit_not_open (.inl hm), commit_not_open (.inl hm)]; exact ⟨rfl, f, h⟩
  · cases hf : find s t with
    | none =>
      rw [commit_not_open (.inr hf), commit_not_open (.inr (h.find_none hf))]
      exact ⟨rfl, f, h⟩
    | some x =>
      have hc := h.close t
      rw [commit_open hm hf, commit_open hm (h.find_some hf),
        hc.conflict_eq (hs.close t) x (hs.beginLe x (find_mem hf).1), h.written_eq x]
      cases conflictS (Spec.close s t) x with
      | true => exact ⟨rfl, f, hc⟩
      | false =>
        cases writtenS s.dom x.own with
        | nil => exact ⟨rfl, f, hc⟩
        | cons a l => exact ⟨rfl, _, hc.publish (hs.close t) (ho.close t) x⟩

end Shift

/-- `reopen` is left out because it recomputes the clock as the maximum (`foldl max 1`) of the committed stamps,
    which does not commute with a renaming. -/
def plainOp : Op → Bool
  | .reopen _ => false
  | .tree => false
  | _ => true

theorem Shift.step {f : Nat → Nat} {s s' : State} (h : Shift f s s') (hs : SInv s) (ho : OwnLe s) (op : Op)
    (hop : plainOp op = true) :
    Agree Shifted (Spec.step s op) (Spec.step s' op) := by
  cases op with
  | begin t l => exact h.begin_step hs ho t l
  | set t k c =>
    show Agree Shifted (Spec.set s t k c) (Spec.set s' t k c)
    rcases h.ctx_cases hs ho t with ⟨e, e'⟩ | ⟨_, _, _, _, _, e, e', _⟩
    · rw [set_closed e, set_closed e']
      exact ⟨rfl, f, h⟩
    · rw [set_of_ctx e, set_of_ctx e']
      split
      · exact ⟨rfl, f, h⟩
      · exact h.write_step hs ho t k _
  | del t k => exact h.write_step hs ho t k none
  | get t k => exact ⟨(h.get_eq hs ho t k).symm, f, h⟩
  | keys t => exact ⟨(h.getKeys_eq hs ho t).symm, f, h⟩
  | commit t => exact h.commit_step hs ho t
  | rollback t => exact ⟨rfl, f, h.close t⟩
  | gc =>
    refine ⟨rfl, ?_⟩
    rw [gcStep_eq, gcStep_eq, show s'.open_.isEmpty = s.open_.isEmpty by rw [h.open_, List.isEmpty_map]]
    split
    · exact ⟨_, h.tick hs ho⟩
    · exact ⟨f, h⟩
  | drain => exact ⟨rfl, f, h⟩
  | reopen _ | tree => cases hop

/-- background work: a collector pass, or the worker pool running its deletion jobs -/
def isBg : Op → Bool
  | .gc => true
  | .drain => true
  | _ => false

def keepFg : List Op → List Out → List Out
  | op :: ops, o :: os => if isBg op then keepFg ops os else o :: keepFg ops os
  | _, _ => []

/-- The general form of `C09_background_erasure_spec`: from related states. -/
theorem erase_bg {f : Nat → Nat} {s s' : State} (h : Shift f s s') (hs : SInv s) (ho : OwnLe s)
    (ops : List Op) (hops : ∀ op ∈ ops, plainOp op = true) :
    keepFg ops (Spec.run s' ops).2 = (Spec.run s (ops.filter (fun o => !isBg o))).2 := by
  induction ops generalizing f s s' with
  | nil => rfl
  | cons op ops ih =>
    obtain ⟨hop, hrest⟩ := List.forall_mem_cons.mp hops
    cases hg : isBg op with
    | true =>
      -- only the history with background work (`s'`) runs it
      have h' : Shift f s (Spec.step s' op).1 := by
        cases op with
        | gc =>
          rw [gcStep_eq]
          split
          · exact h.right_clock _ (Nat.le_succ _) rfl rfl rfl
          · exact h
        | drain => exact h
        | _ => cases hg
      simp only [Spec.run, keepFg.eq_1, hg, if_true, List.filter_cons, Bool.not_true, Bool.false_eq_true, if_false]
      exact ih h' hs ho hrest
    | false =>
      obtain ⟨hout, g, hg2⟩ := h.step hs ho op hop
      simp only [Spec.run, keepFg.eq_1, hg, Bool.false_eq_true, if_false, List.filter_cons, Bool.not_false, if_true]
      rw [← hout, ih hg2 (hs.step op) (ho.step op) hrest]

end FsDb.Spec
