import FsDb.Proofs.SysBasic
/-! The system invariant `Inv` and the refinement relation `R` between the concrete model and the spec. -/
namespace FsDb
open Sys Spec

def Live (c : Sys) (k : Key) (v : Ver) : Prop :=
  v ∈ c.main k ∨ ∃ t st, c.txs t = some st ∧ v ∈ st k

/-- no linked version carries `v`'s content id: what a deletion job may name (`Inv.pendDead`) -/
def Unlinked (all : Store) (v : Ver) : Prop := ∀ k, ∀ w ∈ all k, w.cid ≠ v.cid

structure Inv (c : Sys) : Prop where
  mainSorted : ∀ k, SortedSeq (c.main k)
  txSorted : ∀ t st, c.txs t = some st → ∀ k, SortedSeq (st k)
  allSorted : ∀ k, SortedSeq (c.all k)
  allMem : ∀ k v, v ∈ c.all k ↔ Live c k v
  -- `0 < v.seq`: in the Go code `Seq = 0` stands for "no version"
  bounds : ∀ k, ∀ v ∈ c.all k, 0 < v.seq ∧ v.seq ≤ c.counter ∧ v.cid < c.nextCid ∧ v.key = k
  cidUnique : ∀ k k' v v', v ∈ c.all k → v' ∈ c.all k' → v.cid = v'.cid → v = v'
  regIds : c.reg.Pairwise (fun a b => a.id ≠ b.id)
  regMain : ∀ r ∈ c.reg, r.id ≠ mainTx
  -- omap keeps insertion order, `Begin` draws and registers under the horizon mutex: the head is the minimum (`liveReg_head`)
  regSorted : c.reg.Pairwise (fun a b => a.seq < b.seq)
  regBound : ∀ r ∈ c.reg, 0 < r.seq ∧ r.seq ≤ c.counter
  -- only a registered transaction has a store (`core.Store` makes it on the first write, Commit / Rollback drop it)
  txsReg : ∀ t st, c.txs t = some st → t ≠ mainTx ∧ ∃ r ∈ c.reg, r.id = t
  -- a snapshot's own version is newer than all it sees of main: `newer` picks it, as the specification does (`coreGet_reg`)
  ownAfter : ∀ r ∈ c.reg, ∀ st, c.txs r.id = some st → ∀ k, ∀ v ∈ st k, r.seq < v.seq
  -- A begin number is never a version number.  The horizon of a collection may equal the begin number of a
  -- snapshot that still reads; were it also the number of a version, the pass would take the version before that
  -- one, which is the one the snapshot reads (`collectAt_R`).
  beginNotVer : ∀ r ∈ c.reg, ∀ k, ∀ v ∈ c.all k, v.seq ≠ r.seq
  -- storage: the ghost field `val` of a linked version is what its content record holds (nothing for a tombstone)
  stor : ∀ k, ∀ v ∈ c.all k, c.hasContent v.cid = v.val
  cfsBound : ∀ p ∈ c.cfs, p.1 < c.nextCid
  -- a queued deletion job names no content id that is still linked: the worker pool may run it at any time
  pendDead : ∀ job ∈ c.pending, ∀ v ∈ job, ∀ k, ∀ w ∈ c.all k, w.cid ≠ v.cid
  pendBound : ∀ job ∈ c.pending, ∀ v ∈ job, v.cid < c.nextCid
  domAll : ∀ k, c.all k ≠ [] → k ∈ c.dom
  domNodup : c.dom.Nodup
  -- every version carries the id of the store it is in (`UpdateTx` re-tags what it publishes)
  tagMain : ∀ k, ∀ v ∈ c.main k, v.tx = mainTx
  tagTx : ∀ t st, c.txs t = some st → ∀ k, ∀ v ∈ st k, v.tx = t

/-- the refinement relation.  `cl`: the transactions that are inside Commit / Rollback (already removed
    from the real registry, their UpdateTx / DeleteTx still to come): they read nothing any more, so
    the collector may already have taken what only they could see -/
structure Rx (cl : List Nat) (c : Sys) (s : State) : Prop where
  inv : Inv c
  clock : s.clock = c.counter
  dom : s.dom = c.dom
  reg : s.open_.map (fun t => (t.id, t.level, t.beginStamp)) = c.reg.map (fun r => (r.id, r.level, r.seq))
  own : ∀ t ∈ s.open_, ∀ k, t.own k = (c.ownLatest t.id k).map absV
  hist : ∀ k, ∃ pre, s.hist k = pre ++ (c.main k).map absV
          ∧ (∀ p ∈ pre, ∀ v ∈ c.main k, p.stamp < v.seq)
          ∧ (pre ≠ [] → ∃ h, (c.main k).head? = some h ∧ ∀ r ∈ c.reg, r.id ∉ cl → h.seq < r.seq)
  histDom : ∀ k, s.hist k ≠ [] → k ∈ c.dom

/-- `hs` is the never-forgotten history of a key whose main list is `m`: what the collector has
    taken, then `m`; once something was taken, the oldest version left satisfies `ok` -/
def HistRel (hs : List SVer) (m : List Ver) (ok : Ver → Prop) : Prop :=
  ∃ pre, hs = pre ++ m.map absV ∧ (∀ p ∈ pre, ∀ v ∈ m, p.stamp < v.seq) ∧
    (pre ≠ [] → ∃ h, m.head? = some h ∧ ok h)

namespace HistRel
variable {hs : List SVer} {m : List Ver} {ok ok' : Ver → Prop}

theorem imp (h : HistRel hs m ok) (hok : ∀ v ∈ m, ok v → ok' v) : HistRel hs m ok' :=
  have ⟨pre, h1, h2, h3⟩ := h
  ⟨pre, h1, h2, fun hp => have ⟨hd, hh, ho⟩ := h3 hp; ⟨hd, hh, hok hd (List.mem_of_head? hh) ho⟩⟩

theorem push (h : HistRel hs m ok) (v : Ver) (hv : ∀ u ∈ m, u.seq < v.seq) :
    HistRel (hs ++ [absV v]) (m ++ [v]) ok := by
  obtain ⟨pre, h1, h2, h3⟩ := h
  refine ⟨pre, by simp [h1], ?_, fun hp => ?_⟩
  · intro p hp u hu
    rcases List.mem_append.mp hu with hu | hu
    · exact h2 p hp u hu
    · obtain ⟨hd, hh, _⟩ := h3 (List.ne_nil_of_mem hp)
      have hd' := List.mem_of_head? hh
      rw [List.mem_singleton.mp hu]
      exact Nat.lt_trans (h2 p hp hd hd') (hv hd hd')
  · obtain ⟨hd, hh, ho⟩ := h3 hp
    exact ⟨hd, by rw [List.head?_append, hh]; rfl, ho⟩

theorem drop {a b : List Ver} (h : HistRel hs m ok) (hm : m = a ++ b) (hab : SortedSeq m)
    (hb : a ≠ [] → ∃ v, b.head? = some v ∧ ok v) : HistRel hs b ok := by
  subst hm
  obtain ⟨pre, h1, h2, h3⟩ := h
  refine ⟨pre ++ a.map absV, by simp [h1], ?_, fun hp => ?_⟩
  · intro p hp v hv
    rcases List.mem_append.mp hp with hp | hp
    · exact h2 p hp v (List.mem_append_right _ hv)
    · obtain ⟨u, hu, rfl⟩ := List.mem_map.mp hp
      exact (List.pairwise_append.mp hab).2.2 u hu v hv
  · by_cases ha : a = []
    · subst ha
      simpa using h3 (by simpa using hp)
    · exact hb ha

/-- looking from the end for the newest entry with a property that the oldest version left has:
    what the collector has taken is never reached -/
theorem getLast?_filter (h : HistRel hs m ok) {q : SVer → Bool} {p : Ver → Bool} (hqp : ∀ v, q (absV v) = p v)
    (hok : ∀ v, ok v → p v = true) : (hs.filter q).getLast? = (m.filter p).getLast?.map absV := by
  obtain ⟨pre, rfl, _, h3⟩ := h
  have hmap : (m.map absV).filter q = (m.filter p).map absV := by
    rw [List.filter_map]; exact congrArg _ (List.filter_congr fun v _ => hqp v)
  rw [List.filter_append, hmap, List.getLast?_append, List.getLast?_map]
  cases hg : (m.filter p).getLast? with
  | some v => rfl
  | none =>
    have hp : pre = [] := Classical.byContradiction fun hp => by
      obtain ⟨hd, hh, ho⟩ := h3 hp
      have := List.filter_eq_nil_iff.mp (List.getLast?_eq_none_iff.mp hg) hd (List.mem_of_head? hh)
      exact this (hok hd ho)
    simp [hp]

theorem getLast? (h : HistRel hs m ok) : hs.getLast? = m.getLast?.map absV := by
  have := h.getLast?_filter (q := fun _ => true) (p := fun _ => true) (fun _ => rfl) fun _ _ => rfl
  rwa [List.filter_eq_self.mpr fun _ _ => rfl, List.filter_eq_self.mpr fun _ _ => rfl] at this

theorem lastBefore (h : HistRel hs m ok) {b : Nat} (hb : ∀ v, ok v → v.seq < b) :
    (hs.filter (fun v => v.stamp < b)).getLast? = (lastBeforeSpec m b).map absV :=
  h.getLast?_filter (fun _ => rfl) fun v hv => decide_eq_true (hb v hv)

end HistRel

/-- the refinement relation of the sequential model: no transaction is inside Commit / Rollback -/
abbrev R (c : Sys) (s : State) : Prop := Rx [] c s

theorem Rx.histRel {cl : List Nat} {c : Sys} {s : State} (h : Rx cl c s) (k : Key) :
    HistRel (s.hist k) (c.main k) (fun v => ∀ r ∈ c.reg, r.id ∉ cl → v.seq < r.seq) := h.hist k

theorem Inv.init : Inv ({} : Sys) := by
  constructor <;> intros <;> first | exact .nil | contradiction | skip
  -- `allMem` is left: nothing is linked, nothing is live
  constructor <;> rintro (h | ⟨_, _, h, _⟩) <;> contradiction

theorem R.init : R ({} : Sys) ({} : State) := by
  refine ⟨Inv.init, rfl, rfl, rfl, ?_, ?_, ?_⟩
  · intro t ht; simp at ht
  · intro k; exact ⟨[], by simp [Store.empty], by simp, by simp⟩
  · intro k h; simp at h

theorem Inv.main_sub_all {c : Sys} (i : Inv c) {k : Key} {v : Ver} (hv : v ∈ c.main k) : v ∈ c.all k :=
  (i.allMem k v).mpr (Or.inl hv)

theorem Inv.tx_sub_all {c : Sys} (i : Inv c) {t : Nat} {st : Store} (ht : c.txs t = some st) {k : Key}
    {v : Ver} (hv : v ∈ st k) : v ∈ c.all k :=
  (i.allMem k v).mpr (Or.inr ⟨t, st, ht, hv⟩)

theorem Inv.noMainTx {c : Sys} (i : Inv c) : c.txs mainTx = none := by
  cases hst : c.txs mainTx with
  | none => rfl
  | some st => exact absurd rfl (i.txsReg _ st hst).1

theorem Inv.listSorted {c : Sys} (i : Inv c) (t : Nat) (k : Key) : SortedSeq (c.listOf t k) :=
  (lists_iff i.noMainTx (P := fun _ _ l => SortedSeq l) fun _ _ => .nil).mpr ⟨i.mainSorted, i.txSorted⟩ t k

theorem Inv.listTag {c : Sys} (i : Inv c) {t : Nat} {k : Key} {v : Ver} (hv : v ∈ c.listOf t k) : v.tx = t :=
  (lists_iff i.noMainTx (P := fun t _ l => ∀ v ∈ l, v.tx = t) (by simp)).mpr ⟨i.tagMain, i.tagTx⟩ t k v hv

theorem Inv.listOwn {c : Sys} (i : Inv c) {r : TxRec} (hr : r ∈ c.reg) {k : Key} {v : Ver}
    (hv : v ∈ c.listOf r.id k) : r.seq < v.seq :=
  (lists_iff i.noMainTx (P := fun t _ l => ∀ r ∈ c.reg, r.id = t → ∀ v ∈ l, r.seq < v.seq) (by simp)).mpr
    ⟨fun _ r hr e => absurd e (i.regMain r hr), fun _ st hst k r hr e => i.ownAfter r hr st (e ▸ hst) k⟩
    r.id k r hr rfl v hv

theorem live_iff {c : Sys} (hno : c.txs mainTx = none) (k : Key) (v : Ver) : Live c k v ↔ ∃ t, v ∈ c.listOf t k := by
  constructor
  · rintro (hm | ⟨t, st, hst, hv⟩)
    · exact ⟨mainTx, hm⟩
    · have ht : t ≠ mainTx := fun e => by simp [e, hno] at hst
      exact ⟨t, by simpa [listOf_tx ht, hst] using hv⟩
  · rintro ⟨t, hv⟩
    by_cases ht : t = mainTx
    · subst ht; exact Or.inl hv
    · rw [listOf_tx ht] at hv
      cases hst : c.txs t with
      | none => simp [hst, Store.empty] at hv
      | some st => exact Or.inr ⟨t, st, hst, by simpa [hst] using hv⟩

theorem Inv.listOf_sub_all {c : Sys} (i : Inv c) {t : Nat} {k : Key} {v : Ver} (hv : v ∈ c.listOf t k) : v ∈ c.all k :=
  (i.allMem k v).mpr ((live_iff i.noMainTx k v).mpr ⟨t, hv⟩)

theorem Inv.mem_dom {c : Sys} (i : Inv c) {k : Key} {v : Ver} (hv : v ∈ c.all k) : k ∈ c.dom :=
  i.domAll k (List.ne_nil_of_mem hv)

/-! the three clauses of `bounds` that are read on their own, by name -/
theorem Inv.seq_le {c : Sys} (i : Inv c) {k : Key} {v : Ver} (hv : v ∈ c.all k) : v.seq ≤ c.counter := (i.bounds k v hv).2.1
theorem Inv.cid_lt {c : Sys} (i : Inv c) {k : Key} {v : Ver} (hv : v ∈ c.all k) : v.cid < c.nextCid := (i.bounds k v hv).2.2.1
theorem Inv.key_eq {c : Sys} (i : Inv c) {k : Key} {v : Ver} (hv : v ∈ c.all k) : v.key = k := (i.bounds k v hv).2.2.2

/-- every version is older than the next number drawn -/
theorem Inv.seq_lt_next {c : Sys} (i : Inv c) {k : Key} {v : Ver} (hv : v ∈ c.all k) : v.seq < c.counter + 1 :=
  Nat.lt_succ_of_le (i.seq_le hv)

theorem Inv.key_unique {c : Sys} (i : Inv c) {k k' : Key} {v : Ver} (hv : v ∈ c.all k) (hv' : v ∈ c.all k') : k = k' :=
  (i.key_eq hv).symm.trans (i.key_eq hv')

theorem Inv.main_tx_disjoint {c : Sys} (i : Inv c) {k k' : Key} {v : Ver} (hm : v ∈ c.main k) {t : Nat} {st : Store}
    (hst : c.txs t = some st) : v ∉ st k' :=
  fun hv => (i.txsReg t st hst).1 ((i.tagTx t st hst k' v hv).symm.trans (i.tagMain k v hm))

/-- Versions, whole transaction stores and registry entries only go away: every clause of `Inv` but
    `allMem` carries over. -/
theorem Inv.shrink {c : Sys} (i : Inv c) {main all : Store} {txs : Nat → Option Store} {reg : List TxRec}
    {pending : List (List Ver)}
    (hmain : ∀ k, (main k).Sublist (c.main k))
    (htxs : ∀ t st, txs t = some st → c.txs t = some st)
    (hall : ∀ k, (all k).Sublist (c.all k))
    (hmem : ∀ k v, v ∈ all k ↔ v ∈ main k ∨ ∃ t st, txs t = some st ∧ v ∈ st k)
    (hreg : reg.Sublist c.reg)
    (htr : ∀ t st, txs t = some st → ∃ r ∈ reg, r.id = t)
    (hpend : ∀ job ∈ pending, job ∈ c.pending ∨ ∀ v ∈ job, Unlinked all v ∧ v.cid < c.nextCid) :
    Inv { c with main := main, txs := txs, all := all, reg := reg, pending := pending } where
  mainSorted k := (i.mainSorted k).sublist (hmain k)
  txSorted t st h := i.txSorted t st (htxs t st h)
  allSorted k := (i.allSorted k).sublist (hall k)
  allMem := hmem
  bounds k v hv := i.bounds k v ((hall k).subset hv)
  cidUnique k k' v v' hv hv' := i.cidUnique k k' v v' ((hall k).subset hv) ((hall k').subset hv')
  regIds := i.regIds.sublist hreg
  regMain r hr := i.regMain r (hreg.subset hr)
  regSorted := i.regSorted.sublist hreg
  regBound r hr := i.regBound r (hreg.subset hr)
  txsReg t st h := ⟨(i.txsReg t st (htxs t st h)).1, htr t st h⟩
  ownAfter r hr st h := i.ownAfter r (hreg.subset hr) st (htxs _ st h)
  beginNotVer r hr k v hv := i.beginNotVer r (hreg.subset hr) k v ((hall k).subset hv)
  stor k v hv := i.stor k v ((hall k).subset hv)
  cfsBound := i.cfsBound
  pendDead job hj v hv k w hw :=
    (hpend job hj).elim (fun h => i.pendDead job h v hv k w ((hall k).subset hw)) (fun h => (h v hv).1 k w hw)
  pendBound job hj v hv := (hpend job hj).elim (fun h => i.pendBound job h v hv) (fun h => (h v hv).2)
  domAll k hne := i.domAll k (fun h => hne (List.sublist_nil.mp (h ▸ hall k)))
  domNodup := i.domNodup
  tagMain k v hv := i.tagMain k v ((hmain k).subset hv)
  tagTx t st h := i.tagTx t st (htxs t st h)

theorem Inv.raise {c : Sys} (i : Inv c) {n m : Nat} (hn : c.counter ≤ n) (hm : c.nextCid ≤ m) :
    Inv { c with counter := n, nextCid := m } :=
  { i with
    bounds := fun k v hv => have ⟨a, b, d, e⟩ := i.bounds k v hv; ⟨a, Nat.le_trans b hn, Nat.lt_of_lt_of_le d hm, e⟩
    regBound := fun r hr => have ⟨a, b⟩ := i.regBound r hr; ⟨a, Nat.le_trans b hn⟩
    cfsBound := fun p hp => Nat.lt_of_lt_of_le (i.cfsBound p hp) hm
    pendBound := fun job hj v hv => Nat.lt_of_lt_of_le (i.pendBound job hj v hv) hm }

theorem Rx.find_eq {c : Sys} {s : State} {cl : List Nat} (h : Rx cl c s) (t : Nat) :
    (find s t).map (fun x => (x.id, x.level, x.beginStamp)) = (c.reg.find? (·.id = t)).map (fun r => (r.id, r.level, r.seq)) := by
  have := congrArg (List.find? (fun p => p.1 = t)) h.reg
  rwa [List.find?_map, List.find?_map] at this

theorem Rx.find_isSome {c : Sys} {s : State} {cl : List Nat} (h : Rx cl c s) (t : Nat) :
    (find s t).isSome = (c.reg.find? (·.id = t)).isSome := by
  simpa using congrArg Option.isSome (h.find_eq t)

theorem Rx.find_cases {c : Sys} {s : State} {cl : List Nat} (h : Rx cl c s) (t : Nat) :
    (find s t = none ∧ c.reg.find? (·.id = t) = none) ∨
    ∃ x, find s t = some x ∧ c.reg.find? (·.id = t) = some ⟨x.id, x.level, x.beginStamp⟩ := by
  have hf := h.find_eq t
  cases hx : find s t <;> cases hr : c.reg.find? (·.id = t) <;> rw [hx, hr] at hf
  · exact Or.inl ⟨rfl, rfl⟩
  · cases hf
  · cases hf
  · next x r => cases r; cases hf; exact Or.inr ⟨x, rfl, rfl⟩

theorem Rx.regGet_isNone {c : Sys} {s : State} {cl : List Nat} (h : Rx cl c s) (t : Nat) :
    (c.regGet t).isNone = (ctxOf s t).isNone := by
  by_cases ht : t = mainTx
  · subst ht; rfl
  · rw [regGet_of_ne ht, ctxOf_of_ne ht]
    rcases h.find_cases t with ⟨h2, h1⟩ | ⟨x, h2, h1⟩ <;> rw [h1, h2] <;> rfl

theorem Rx.open_isEmpty {c : Sys} {s : State} {cl : List Nat} (h : Rx cl c s) : s.open_.isEmpty = c.reg.head?.isNone := by
  have := h.reg
  cases ho : s.open_ <;> cases hr : c.reg <;> simp_all

theorem Rx.mem_reg_of_open {c : Sys} {s : State} {cl : List Nat} (h : Rx cl c s) {t : STx} (ht : t ∈ s.open_) :
    (⟨t.id, t.level, t.beginStamp⟩ : TxRec) ∈ c.reg := by
  have hm := List.mem_map_of_mem (f := fun t : STx => (t.id, t.level, t.beginStamp)) ht
  rw [h.reg] at hm
  obtain ⟨⟨_, _, _⟩, hr, he⟩ := List.mem_map.mp hm
  cases he
  exact hr

/-- the own clause goes over to a state that keeps the store of `x` -/
theorem Rx.own_of_txs {c c' : Sys} {s : State} {cl : List Nat} (h : Rx cl c s) {x : STx} (hx : x ∈ s.open_) (k : Key)
    (htxs : c'.txs x.id = c.txs x.id) : x.own k = (c'.ownLatest x.id k).map absV := by
  rw [h.own x hx k, ownLatest_congr (h.inv.regMain _ (h.mem_reg_of_open hx)) htxs]

theorem Rx.congr {c c' : Sys} {s : State} {cl : List Nat} (h : Rx cl c s) (i' : Inv c')
    (h1 : c'.counter = c.counter := by rfl) (h2 : c'.dom = c.dom := by rfl) (h3 : c'.reg = c.reg := by rfl)
    (h4 : c'.main = c.main := by rfl) (h5 : c'.txs = c.txs := by rfl) : Rx cl c' s := by
  refine ⟨i', h1 ▸ h.clock, h2 ▸ h.dom, h3 ▸ h.reg, fun x hx k => ?_, fun k => h4 ▸ h3 ▸ h.hist k,
    fun k hne => h2 ▸ h.histDom k hne⟩
  exact h.own_of_txs hx k (congrFun h5 _)

/-- the transactions in `cl` are exempt from the snapshot clause, so a larger set weakens the relation;
    only registered ids count: one that is no longer registered may leave the set -/
theorem Rx.closing_mono {c : Sys} {s : State} {cl cl' : List Nat} (h : Rx cl c s)
    (hcl : ∀ r ∈ c.reg, r.id ∈ cl → r.id ∈ cl') : Rx cl' c s :=
  ⟨h.inv, h.clock, h.dom, h.reg, h.own,
    fun k => (h.histRel k).imp fun _ _ hv r hr hrc => hv r hr fun hin => hrc (hcl r hr hin), h.histDom⟩

/-- only the deletion queue changes: jobs may leave it, change places in it, and join it if all their versions
    are unlinked and carry old content ids -/
theorem Inv.pending {c : Sys} (i : Inv c) (p : List (List Ver))
    (hp : ∀ job ∈ p, job ∈ c.pending ∨ ∀ v ∈ job, Unlinked c.all v ∧ v.cid < c.nextCid) :
    Inv { c with pending := p } :=
  { i with pendDead := fun job hj v hv => (hp job hj).elim (fun hm => i.pendDead job hm v hv) fun hd => (hd v hv).1
           pendBound := fun job hj v hv => (hp job hj).elim (fun hm => i.pendBound job hm v hv) fun hd => (hd v hv).2 }

theorem Rx.pending {c : Sys} {s : State} {cl : List Nat} (h : Rx cl c s) (p : List (List Ver))
    (hp : ∀ job ∈ p, job ∈ c.pending ∨ ∀ v ∈ job, Unlinked c.all v ∧ v.cid < c.nextCid) :
    Rx cl { c with pending := p } s :=
  h.congr (h.inv.pending p hp)

/-- `Inv` does not look at the version records -/
theorem Inv.setRecs {c : Sys} (i : Inv c) (r : List Ver) : Inv { c with recs := r } := { i with }

end FsDb
